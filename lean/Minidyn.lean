import Minidyn.Model.Basic
import Minidyn.Model.Num
import Minidyn.Model.Value
import Minidyn.Model.Lexer
import Minidyn.Model.Parser
import Minidyn.Model.Env
import Minidyn.Model.Eval
import Minidyn.Model.Interp
import Minidyn.Model.Table
import Minidyn.Model.Client
import Minidyn.Tie.Tables
import Minidyn.Tie.Locks
import Minidyn.Tie.Sharing
import Minidyn.Lemmas.Order
import Minidyn.Lemmas.Search
import Minidyn.Lemmas.Assoc
import Minidyn.Lemmas.Except
import Minidyn.Lemmas.Key
import Minidyn.Lemmas.Table
import Minidyn.Lemmas.Client
import Minidyn.Props.C01
import Minidyn.Props.C13
import Minidyn.Props.C03
import Minidyn.Props.C05
import Minidyn.Props.C15
import Minidyn.Props.C08
import Minidyn.Props.C18
import Minidyn.Props.C19
import Minidyn.Props.C20
import Minidyn.Props.C10
import Minidyn.Props.C16
import Minidyn.Props.C06
import Minidyn.Props.C07
import Minidyn.Props.C12
import Minidyn.Props.C17
import Minidyn.Props.C02
import Minidyn.Props.C04
import Minidyn.Props.C04Loop
import Minidyn.Props.C09
import Minidyn.Props.C11
import Minidyn.Props.C14
import Minidyn.Props.C03Read
import Minidyn.Lemmas.Chain
import Minidyn.Props.C04Index
import Minidyn.Props.Lift
import Minidyn.Props.Reach
import Minidyn.Props.C05Seq
import Minidyn.Props.C05Lit
import Minidyn.Props.C19Get
import Minidyn.Props.C06Sets
import Minidyn.Props.C13Start
import Minidyn.Props.Refine
import Minidyn.Props.RefineBatch
import Minidyn.Props.C12Order
import Minidyn.Props.C20Words
import Minidyn.Props.C20Blank
import Minidyn.Props.C09Client
import Minidyn.Props.ReachGen
import Minidyn.Props.C04Paging

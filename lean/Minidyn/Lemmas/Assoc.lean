/-
  Minidyn.Lemmas.Assoc — the association lists that stand for Go maps behave like finite maps: what `alookup` finds
  after `ainsert` and `aerase`, and what the two do to the list of keys.
-/
import Minidyn.Model.Basic
namespace Minidyn

variable {β : Type}

def keysOf (m : List (Bytes × β)) : List Bytes := m.map (·.1)

theorem keysOf_cons (p : Bytes × β) (m : List (Bytes × β)) : keysOf (p :: m) = p.1 :: keysOf m := rfl

@[simp] theorem alookup_nil (k : Bytes) : alookup k ([] : List (Bytes × β)) = none := rfl

/-- `alookup` tests `k0 == k`; the lemmas below state the test as `k = k0`, the looked-up key on the left -/
theorem alookup_cons (k k0 : Bytes) (v0 : β) (t : List (Bytes × β)) :
    alookup k ((k0, v0) :: t) = if k = k0 then some v0 else alookup k t := by
  simp only [alookup, beq_iff_eq, eq_comm (a := k0)]

theorem ite_ite_comm {α : Type} {k k0 k' : Bytes} (h : k0 ≠ k) (a b c : α) :
    (if k' = k0 then a else if k' = k then b else c) = if k' = k then b else if k' = k0 then a else c := by
  by_cases h1 : k' = k0
  · rw [if_pos h1, if_neg (h1 ▸ h), if_pos h1]
  · rw [if_neg h1, if_neg h1]

theorem alookup_ainsert (k k' : Bytes) (v : β) (m : List (Bytes × β)) :
    alookup k' (ainsert k v m) = if k' = k then some v else alookup k' m := by
  induction m with
  | nil => exact alookup_cons ..
  | cons p t ih =>
    obtain ⟨k0, v0⟩ := p
    simp only [ainsert, beq_iff_eq]
    split
    · next h => subst h; simp only [alookup_cons]; split <;> rfl
    · next h => simp only [alookup_cons, ih]; exact ite_ite_comm h ..

theorem alookup_aerase (k k' : Bytes) (m : List (Bytes × β)) :
    alookup k' (aerase k m) = if k' = k then none else alookup k' m := by
  induction m with
  | nil => simp only [aerase, alookup, ite_self]
  | cons p t ih =>
    obtain ⟨k0, v0⟩ := p
    simp only [aerase, beq_iff_eq]
    split
    · next h => subst h; simp only [alookup_cons, ih]; split <;> rfl
    · next h => simp only [alookup_cons, ih]; exact ite_ite_comm h ..

theorem alookup_ainsert_self (k : Bytes) (v : β) (m : List (Bytes × β)) : alookup k (ainsert k v m) = some v := by
  rw [alookup_ainsert, if_pos rfl]

theorem alookup_ainsert_ne {k k' : Bytes} (v : β) (m : List (Bytes × β)) (h : k' ≠ k) :
    alookup k' (ainsert k v m) = alookup k' m := by rw [alookup_ainsert, if_neg h]

theorem alookup_aerase_self (k : Bytes) (m : List (Bytes × β)) : alookup k (aerase k m) = none := by
  rw [alookup_aerase, if_pos rfl]

theorem alookup_aerase_ne {k k' : Bytes} (m : List (Bytes × β)) (h : k' ≠ k) :
    alookup k' (aerase k m) = alookup k' m := by rw [alookup_aerase, if_neg h]

/-- an entry found after `ainsert` is the new one or was there before; one found after `aerase` was there before: what
    holds of every entry of a map is kept by both (given it of the new entry) -/
theorem alookup_ainsert_some {k k' : Bytes} {v v' : β} {m : List (Bytes × β)} (h : alookup k' (ainsert k v m) = some v') :
    (k' = k ∧ v' = v) ∨ alookup k' m = some v' := by
  rw [alookup_ainsert] at h
  split at h
  · next hk => exact .inl ⟨hk, (Option.some.inj h).symm⟩
  · exact .inr h

theorem alookup_of_aerase {k k' : Bytes} {v' : β} {m : List (Bytes × β)} (h : alookup k' (aerase k m) = some v') :
    alookup k' m = some v' := by
  rw [alookup_aerase] at h
  split at h
  · cases h
  · exact h

theorem of_update {α γ : Type} [DecidableEq α] {f g : α → γ} {a : α} {v : γ} (h : ∀ x, f x = if x = a then v else g x) :
    f a = v ∧ ∀ x, x ≠ a → f x = g x :=
  ⟨(h a).trans (if_pos rfl), fun x hne => (h x).trans (if_neg hne)⟩

theorem alookup_map {γ : Type} (f : β → γ) (n : Bytes) (m : List (Bytes × β)) :
    alookup n (m.map fun (p : Bytes × β) => (p.1, f p.2)) = (alookup n m).map f := by
  induction m with
  | nil => rfl
  | cons p t ih => cases p; simp only [List.map_cons, alookup_cons, ih, apply_ite (Option.map f), Option.map_some]

theorem mem_of_alookup {n : Bytes} {v : β} {m : List (Bytes × β)} (h : alookup n m = some v) : (n, v) ∈ m := by
  induction m with
  | nil => cases h
  | cons p t ih =>
    obtain ⟨k0, v0⟩ := p
    rw [alookup_cons] at h
    split at h
    · next hk => cases h; rw [hk]; exact List.mem_cons_self ..
    · exact List.mem_cons_of_mem _ (ih h)

theorem alookup_of_mem_nodup {m : List (Bytes × β)} (hn : (keysOf m).Nodup) {r : Bytes × β} (h : r ∈ m) :
    alookup r.1 m = some r.2 := by
  induction m with
  | nil => cases h
  | cons p rest ih =>
    rw [keysOf_cons, List.nodup_cons] at hn
    obtain ⟨k0, v0⟩ := p
    rw [alookup_cons]
    rcases List.mem_cons.1 h with rfl | h
    · exact if_pos rfl
    · rw [if_neg fun (e : r.1 = k0) => hn.1 (e ▸ List.mem_map_of_mem (f := (·.1)) h), ih hn.2 h]

theorem ahas_iff_mem_keys (k : Bytes) (m : List (Bytes × β)) : ahas k m = true ↔ k ∈ keysOf m := by
  induction m with
  | nil => simp [ahas, keysOf]
  | cons p t ih =>
    obtain ⟨k0, v0⟩ := p
    rw [ahas, alookup_cons, keysOf_cons, List.mem_cons, ← ih, ahas]
    split <;> simp [*]

theorem alookup_eq_none_iff {k : Bytes} {m : List (Bytes × β)} : alookup k m = none ↔ k ∉ keysOf m := by
  rw [← ahas_iff_mem_keys, ahas]; cases alookup k m <;> simp

theorem aerase_eq_filter (k : Bytes) (m : List (Bytes × β)) : aerase k m = m.filter (·.1 != k) := by
  induction m with
  | nil => rfl
  | cons p t ih => obtain ⟨k0, v0⟩ := p; simp only [aerase, List.filter_cons, bne, ih]; cases k0 == k <;> rfl

theorem aerase_of_not_mem {k : Bytes} {m : List (Bytes × β)} (h : k ∉ keysOf m) : aerase k m = m :=
  aerase_eq_filter k m ▸ List.filter_eq_self.2 fun _ hp => bne_iff_ne.2 fun e => h (e ▸ List.mem_map_of_mem hp)

theorem ainsert_of_not_has {k : Bytes} (v : β) {m : List (Bytes × β)} (h : ahas k m = false) :
    ainsert k v m = m ++ [(k, v)] := by
  induction m with
  | nil => rfl
  | cons p t ih =>
    obtain ⟨k0, v0⟩ := p
    rw [ahas, alookup_cons] at h
    split at h
    · cases h
    · next hk => rw [ainsert, if_neg (by simpa using Ne.symm hk), ih h]; rfl

theorem mem_keysOf_ainsert {k k' : Bytes} (v : β) (m : List (Bytes × β)) :
    k' ∈ keysOf (ainsert k v m) ↔ k' = k ∨ k' ∈ keysOf m := by
  rw [← ahas_iff_mem_keys, ← ahas_iff_mem_keys, ahas, ahas, alookup_ainsert]; split <;> simp [*]

theorem mem_keysOf_aerase {k k' : Bytes} (m : List (Bytes × β)) :
    k' ∈ keysOf (aerase k m) ↔ (k' ∈ keysOf m ∧ k' ≠ k) := by
  rw [← ahas_iff_mem_keys, ← ahas_iff_mem_keys, ahas, ahas, alookup_aerase]; split <;> simp [*]

theorem nodup_keysOf_ainsert (k : Bytes) (v : β) {m : List (Bytes × β)} (h : (keysOf m).Nodup) :
    (keysOf (ainsert k v m)).Nodup := by
  induction m with
  | nil => simp [ainsert, keysOf]
  | cons p t ih =>
    obtain ⟨k0, v0⟩ := p
    rw [keysOf_cons, List.nodup_cons] at h
    rw [ainsert]
    split
    · next hk => rw [keysOf_cons, List.nodup_cons]; exact beq_iff_eq.1 hk ▸ h
    · next hk =>
      rw [keysOf_cons, List.nodup_cons, mem_keysOf_ainsert]
      exact ⟨fun e => e.elim (fun e => hk (beq_iff_eq.2 e)) h.1, ih h.2⟩

theorem nodup_keysOf_aerase {k : Bytes} {m : List (Bytes × β)} (h : (keysOf m).Nodup) : (keysOf (aerase k m)).Nodup :=
  aerase_eq_filter k m ▸ h.sublist (List.filter_sublist.map _)

theorem perm_cons_aerase {k : Bytes} {v : β} {m : List (Bytes × β)} (hn : (keysOf m).Nodup) (h : alookup k m = some v) :
    m.Perm ((k, v) :: aerase k m) := by
  induction m with
  | nil => cases h
  | cons p t ih =>
    obtain ⟨k0, v0⟩ := p
    rw [keysOf_cons, List.nodup_cons] at hn
    rw [alookup_cons] at h
    rw [aerase]
    split at h
    · next hk => cases h; subst hk; rw [if_pos (beq_self_eq_true _), aerase_of_not_mem hn.1]
    · next hk => rw [if_neg (by simpa using Ne.symm hk)]; exact ((ih hn.2 h).cons _).trans (List.Perm.swap ..)

theorem alookup_append (f : Bytes) (a b : List (Bytes × β)) : alookup f (a ++ b) = (alookup f a).or (alookup f b) := by
  induction a with
  | nil => rfl
  | cons p a ih => cases p; simp only [List.cons_append, alookup_cons, ih]; split <;> rfl

theorem alookup_foldl_ainsert {src : List (Bytes × β)} (f : Bytes) : ∀ (kvs base : List (Bytes × β)),
    (∀ p ∈ kvs, alookup p.1 src = some p.2) →
    alookup f (kvs.foldl (fun acc (p : Bytes × β) => ainsert p.1 p.2 acc) base) =
      if f ∈ keysOf kvs then alookup f src else alookup f base := by
  intro kvs
  induction kvs with
  | nil => intro base _; rfl
  | cons p kvs ih =>
    intro base h
    rw [List.foldl_cons, ih _ (fun p' hp' => h p' (List.mem_cons_of_mem _ hp')), keysOf_cons]
    by_cases h1 : f ∈ keysOf kvs
    · rw [if_pos h1, if_pos (List.mem_cons_of_mem _ h1)]
    · rw [if_neg h1]
      by_cases h2 : f = p.1
      · rw [if_pos (h2 ▸ List.mem_cons_self ..), h2, alookup_ainsert_self, h p (List.mem_cons_self ..)]
      · rw [if_neg (fun hm => (List.mem_cons.1 hm).elim h2 h1), alookup_ainsert_ne _ _ h2]

theorem alookup_foldl_ainsert_getD (k : Bytes) (d : β) : ∀ (kvs base : List (Bytes × β)),
    (∀ p ∈ kvs, p.1 = k → (alookup k base).getD d = p.2) →
    (alookup k (kvs.foldl (fun acc (p : Bytes × β) => ainsert p.1 p.2 acc) base)).getD d = (alookup k base).getD d
  | [], _, _ => rfl
  | (n, v) :: rest, base, h => by
    have h1 : (alookup k (ainsert n v base)).getD d = (alookup k base).getD d := by
      rw [alookup_ainsert]
      split
      · next e => exact (h (n, v) (List.mem_cons_self ..) e.symm).symm
      · rfl
    rw [List.foldl_cons, alookup_foldl_ainsert_getD k d rest _ fun p hp hpk => h1 ▸ h p (List.mem_cons_of_mem _ hp) hpk, h1]

end Minidyn

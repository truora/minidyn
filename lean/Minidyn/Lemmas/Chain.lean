/-
  Minidyn.Lemmas.Chain — lists in which every later element lies strictly after every earlier one, for a strict order
  given as a Boolean relation `aft`.  The elements after a position `s`, member or not, form a suffix (`split3`); those
  after a member are the rest of the list.  Resuming a Query or Scan after its LastEvaluatedKey (C04) rests on this, for
  the read order of a table (key strings) and of an index (pairs of index key and primary key), forward and backward.
-/
import Minidyn.Lemmas.Order
namespace Minidyn.Chain

structure StrictOrd {α : Type} (aft : α → α → Bool) : Prop where
  trans : ∀ {a b c}, aft a b = true → aft b c = true → aft a c = true
  irrefl : ∀ a, aft a a = false
  asymm : ∀ {a b}, aft a b = true → aft b a = false

variable {α : Type} {aft : α → α → Bool}

def IsChain (aft : α → α → Bool) : List α → Prop
  | [] => True
  | x :: xs => (∀ y ∈ xs, aft y x = true) ∧ IsChain aft xs

theorem isChain_iff_pairwise : ∀ l : List α, IsChain aft l ↔ l.Pairwise (fun x y => aft y x = true)
  | [] => by simp [IsChain]
  | x :: xs => by rw [IsChain, List.pairwise_cons, isChain_iff_pairwise xs]

theorem append : ∀ (a b : List α), IsChain aft (a ++ b) →
    IsChain aft a ∧ IsChain aft b ∧ ∀ x ∈ a, ∀ y ∈ b, aft y x = true := fun a b h => by
  simpa only [isChain_iff_pairwise, List.pairwise_append] using h

theorem after_member (so : StrictOrd aft) (pre post : List α) (k : α) (h : IsChain aft (pre ++ k :: post)) :
    (∀ x ∈ pre, aft x k = false) ∧ aft k k = false ∧ (∀ y ∈ post, aft y k = true) := by
  obtain ⟨_, h2, h3⟩ := append pre (k :: post) h
  exact ⟨fun x hx => so.asymm (h3 x hx k (List.mem_cons_self ..)), so.irrefl k, h2.1⟩

theorem reverse {bft : α → α → Bool} (hconv : ∀ a b, aft a b = true → bft b a = true) :
    ∀ (l : List α), IsChain aft l → IsChain bft l.reverse := fun l h => by
  rw [isChain_iff_pairwise] at h ⊢
  exact List.pairwise_reverse.2 (h.imp fun h => hconv _ _ h)

theorem filter_after_member (so : StrictOrd aft) (pre post : List α) (k : α) (h : IsChain aft (pre ++ k :: post)) :
    (pre ++ k :: post).filter (fun x => aft x k) = post := by
  obtain ⟨h1, h2, h3⟩ := after_member so pre post k h
  rw [List.filter_append, List.filter_eq_nil_iff.2 fun x hx => ne_true_of_eq_false (h1 x hx), List.nil_append,
    List.filter_cons_of_neg (p := (aft · k)) (ne_true_of_eq_false h2), List.filter_eq_self.2 h3]

theorem split3 (so : StrictOrd aft) (s : α) : ∀ (l : List α), IsChain aft l →
    ∃ lo mid, l = lo ++ mid ++ l.filter (aft · s) ∧ (∀ x ∈ lo, aft x s = false ∧ x ≠ s) ∧ (mid = [] ∨ mid = [s]) := by
  intro l
  induction l with
  | nil => intro _; exact ⟨[], [], rfl, by simp, .inl rfl⟩
  | cons x xs ih =>
    intro hc
    cases hx : aft x s with
    | true =>
      -- everything from `x` on is after `s`
      have : (x :: xs).filter (aft · s) = x :: xs :=
        List.filter_eq_self.2 fun y hy => (List.mem_cons.1 hy).elim (· ▸ hx) fun hy => so.trans (hc.1 y hy) hx
      exact ⟨[], [], this.symm, by simp, .inl rfl⟩
    | false =>
      rw [List.filter_cons_of_neg (p := (aft · s)) (ne_true_of_eq_false hx)]
      by_cases hxs : x = s
      · have : xs.filter (aft · s) = xs := List.filter_eq_self.2 fun y hy => hxs ▸ hc.1 y hy
        exact ⟨[], [s], by rw [this, hxs]; rfl, by simp, .inr rfl⟩
      · obtain ⟨lo, mid, he, hlo, hmid⟩ := ih hc.2
        exact ⟨x :: lo, mid, congrArg (x :: ·) he, List.forall_mem_cons.2 ⟨⟨hx, hxs⟩, hlo⟩, hmid⟩

/-- resuming after `k`; `all` is the read without a start key, which takes the whole list, not the part after `s` -/
theorem filter_after_of_filter (so : StrictOrd aft) {l : List α} (hc : IsChain aft l) (s : α) (all : Bool)
    {pre post : List α} {k : α} (h : (if all then l else l.filter (aft · s)) = pre ++ k :: post) :
    l.filter (aft · k) = post := by
  obtain ⟨lo, he⟩ : ∃ lo, l = lo ++ (pre ++ k :: post) := by
    rw [← h]
    cases all
    · obtain ⟨lo, mid, he, _⟩ := split3 so s l hc; exact ⟨lo ++ mid, he⟩
    · exact ⟨[], rfl⟩
  rw [← List.append_assoc] at he
  rw [he]; exact filter_after_member so _ _ _ (he ▸ hc)

variable {c : α → α → Ordering}

theorem StrictOrd.ofCmp (refl : ∀ a, c a a = .eq) (lt_gt : ∀ {a b}, c a b = .lt ↔ c b a = .gt)
    (trans : ∀ {a b d}, c a b = .lt → c b d = .lt → c a d = .lt) (fwd : Bool) :
    StrictOrd fun a b => if fwd then c a b == .gt else c a b == .lt := by
  cases fwd <;> simp only [Bool.false_eq_true, if_false, if_true]
  · exact ⟨fun h1 h2 => beq_iff_eq.2 (trans (beq_iff_eq.1 h1) (beq_iff_eq.1 h2)), fun a => by rw [refl]; rfl,
      fun h => by rw [lt_gt.1 (beq_iff_eq.1 h)]; rfl⟩
  · exact ⟨fun h1 h2 => beq_iff_eq.2 (lt_gt.1 (trans (lt_gt.2 (beq_iff_eq.1 h2)) (lt_gt.2 (beq_iff_eq.1 h1)))),
      fun a => by rw [refl]; rfl, fun h => by rw [lt_gt.2 (beq_iff_eq.1 h)]; rfl⟩

theorem of_sorted {le : α → α → Bool} (trans : ∀ a b c, le a b = true → le b c = true → le a c = true)
    (hstrict : ∀ x y, le x y = true → x ≠ y → aft y x = true) {l : List α} (hs : SortedBy le l) (hn : l.Nodup) :
    IsChain aft l := by
  rw [isChain_iff_pairwise]
  exact ((sortedBy_iff_pairwise trans l).1 hs).imp₂ (fun _ _ hle hne => hstrict _ _ hle hne) hn

theorem of_sorted_cmp (lt_gt : ∀ {a b}, c a b = .lt ↔ c b a = .gt) {le : α → α → Bool}
    (trans : ∀ a b d, le a b = true → le b d = true → le a d = true)
    (hlt : ∀ x y, le x y = true → x ≠ y → c x y = .lt) {l : List α} (hs : SortedBy le l) (hn : l.Nodup) (fwd : Bool) :
    IsChain (fun a b => if fwd then c a b == .gt else c a b == .lt) (if fwd then l else l.reverse) := by
  have hfw : IsChain (fun a b => c a b == .gt) l :=
    of_sorted trans (fun x y hle hne => beq_iff_eq.2 (lt_gt.1 (hlt x y hle hne))) hs hn
  cases fwd <;> simp only [Bool.false_eq_true, if_false, if_true]
  · exact reverse (fun a b h => beq_iff_eq.2 (lt_gt.2 (beq_iff_eq.1 h))) l hfw
  · exact hfw

end Minidyn.Chain

/-
  Minidyn.Lemmas.Client — what the operations of `Model.Client` do, in the form the property files use.

  PutItem, UpdateItem and DeleteItem are one scheme (`write`): emulated failure, placeholder check,
  table lookup, the operation of `Model.Table`, then either `setTable` with its result or the unchanged
  client with an error.  What the property files need of the three follows from `write_cases`: the call
  failed and changed nothing, or the table operation succeeded and its table was stored.  Reads return
  the client they were given.  `run`, the loop of `batchWrite` and `pagesLoop` keep whatever each single
  step keeps (`run_inv`, `batchWrite_inv`, `pagesLoop_inv`).
-/
import Minidyn.Model.Client
import Minidyn.Lemmas.Table
namespace Minidyn

/-- the answers that report a failed call: C08's notion, defined here because `write_cases` speaks of it -/
def Props.C08.isFailure : Out → Bool
  | .err _ _ | .panicErr _ => true
  | _ => false

namespace Client
open Props.C08 (isFailure)

theorem withTable_none {c : Client} {n : Bytes} (f : Table → Client × Out) (h : alookup n c.tables = none) :
    withTable c n f = (c, .err .resourceNotFound none) := by simp only [withTable, h]

theorem withTable_some {c : Client} {n : Bytes} {t : Table} (f : Table → Client × Out) (h : alookup n c.tables = some t) :
    withTable c n f = f t := by simp only [withTable, h]

theorem setTable_self (c : Client) (n : Bytes) (t : Table) : alookup n (setTable c n t).tables = some t :=
  alookup_ainsert_self n t c.tables

theorem setTable_other (c : Client) {a b : Bytes} (t : Table) (h : b ≠ a) :
    alookup b (setTable c a t).tables = alookup b c.tables := alookup_ainsert_ne t c.tables h

theorem failureErr_isFailure (f : Failure) : isFailure (failureErr f) = true := by cases f <;> rfl

theorem writeErrOut_isFailure (sdk : Sdk) (rf : Bool) (e : Table.WriteErr) : isFailure (writeErrOut sdk rf e) = true := by
  cases e with
  | interp cls => simp only [writeErrOut]; split <;> rfl
  | _ => rfl

/-- the scheme of `putItem`, `updateItem` and `deleteItem`: `f` is the operation of `Model.Table`; `tbl` and `out` take
    the new table and the answer from its result -/
def write {α} (c : Client) (table : Bytes) (ex : Exprs) (exprs : List Bytes) (rf : Bool)
    (f : Table → Except Table.WriteErr α) (tbl : α → Table) (out : α → Out) : Client × Out :=
  match c.failure with
  | some fl => (c, failureErr fl)
  | none =>
    if !validateExprAttrs ex exprs then (c, .err .validation none)
    else withTable c table fun t =>
      match f t with
      | .ok a => (setTable c table (tbl a), out a)
      | .error e => (c, writeErrOut c.sdk rf e)

theorem putItem_eq_write (c : Client) (table : Bytes) (item : Item) (cond : Option Bytes) (ex : Exprs) :
    putItem c table item cond ex =
      write c table ex [cond.getD []] false (fun t => t.put (matcher c table ex) item cond) (fun t' => t') (fun _ => .ok) := by
  unfold putItem write
  cases c.failure with
  | some _ => rfl
  | none =>
    dsimp only
    congr 2; funext t
    cases t.put (matcher c table ex) item cond <;> rfl

theorem updateItem_eq_write (c : Client) (table : Bytes) (key : Item) (expr : Bytes) (cond : Option Bytes) (ex : Exprs) (rf : Bool) :
    updateItem c table key expr cond ex rf =
      write c table ex [expr, cond.getD []] rf (fun t => t.update (matcher c table ex) (updater c table expr ex) key cond)
        (·.1) (fun r => .item (some (outItem c.sdk r.2))) := by
  unfold updateItem write
  cases c.failure with
  | some _ => rfl
  | none =>
    dsimp only
    congr 2; funext t
    cases t.update (matcher c table ex) (updater c table expr ex) key cond <;> rfl

theorem deleteItem_eq_write (c : Client) (table : Bytes) (key : Item) (cond : Option Bytes) (ex : Exprs) (ro : Bool) :
    deleteItem c table key cond ex ro =
      write c table ex [cond.getD []] false (fun t => t.delete (matcher c table ex) key cond)
        (·.1) (fun r => if ro then .item (some (outItem c.sdk (r.2.getD []))) else .item none) := by
  unfold deleteItem write
  cases c.failure with
  | some _ => rfl
  | none =>
    dsimp only
    congr 2; funext t
    cases t.delete (matcher c table ex) key cond <;> rfl

section write
variable {α : Type} (c : Client) (table : Bytes) (ex : Exprs) (exprs : List Bytes) (rf : Bool)
  (f : Table → Except Table.WriteErr α) (tbl : α → Table) (out : α → Out)

theorem write_cases :
    (∃ t a, c.failure = none ∧ alookup table c.tables = some t ∧ f t = .ok a ∧
      write c table ex exprs rf f tbl out = (setTable c table (tbl a), out a)) ∨
    (∃ o, isFailure o = true ∧ write c table ex exprs rf f tbl out = (c, o)) := by
  unfold write
  cases c.failure with
  | some fl => exact .inr ⟨_, failureErr_isFailure fl, rfl⟩
  | none =>
    dsimp only
    split
    · exact .inr ⟨_, rfl, rfl⟩
    · cases ht : alookup table c.tables with
      | none => exact .inr ⟨_, rfl, withTable_none _ ht⟩
      | some t =>
        rw [withTable_some _ ht]
        cases ha : f t with
        | ok a => exact .inl ⟨t, a, rfl, rfl, ha, rfl⟩
        | error e => exact .inr ⟨_, writeErrOut_isFailure .., rfl⟩

variable {c table ex exprs rf f tbl out}

theorem write_missing (hf : c.failure = none) (hv : validateExprAttrs ex exprs = true)
    (h : alookup table c.tables = none) : write c table ex exprs rf f tbl out = (c, .err .resourceNotFound none) := by
  simp [write, hf, hv, withTable_none _ h]

theorem write_fail_unchanged (hout : ∀ a, isFailure (out a) = false)
    (h : isFailure (write c table ex exprs rf f tbl out).2 = true) : (write c table ex exprs rf f tbl out).1 = c := by
  rcases write_cases c table ex exprs rf f tbl out with ⟨_, a, _, _, _, he⟩ | ⟨_, _, he⟩ <;> rw [he] at h ⊢
  rw [hout a] at h; cases h

theorem write_frame {b : Bytes} (hb : b ≠ table) :
    alookup b (write c table ex exprs rf f tbl out).1.tables = alookup b c.tables := by
  rcases write_cases c table ex exprs rf f tbl out with ⟨_, _, _, _, _, he⟩ | ⟨_, _, he⟩ <;> rw [he]
  exact setTable_other c _ hb

end write

theorem putItem_cases (c : Client) (table : Bytes) (item : Item) (cond : Option Bytes) (ex : Exprs) :
    (∃ t t', c.failure = none ∧ alookup table c.tables = some t ∧ t.put (matcher c table ex) item cond = .ok t' ∧
      putItem c table item cond ex = (setTable c table t', .ok)) ∨
    (∃ o, isFailure o = true ∧ putItem c table item cond ex = (c, o)) := by
  rw [putItem_eq_write]; exact write_cases ..

/-- the index `addGlobalIndex` builds: the backfill of the stored items -/
def backfill (t : Table) (ks : KeySchema) : Index :=
  t.sortedKeys.foldl (fun ix key => ix.setOrKeep t.attrs key (t.getItem key)) { schema := ks, typ := .global }

theorem addGlobalIndex_eq {t t' : Table} {ppr : Bool} {d : IndexDef} (h : addGlobalIndex t ppr d = some t') :
    t' = { t with indexes := ainsert d.name (backfill t (schemaOf d.key true)) t.indexes } := by
  unfold addGlobalIndex at h
  simp only [Option.ite_none_left_eq_some] at h
  exact (Option.some.inj h.2.2.2).symm

theorem addLocalIndex_eq {t t' : Table} {d : IndexDef} (h : addLocalIndex t d = some t') :
    t' = { t with indexes := ainsert d.name { schema := schemaOf d.key true, typ := .loc } t.indexes } := by
  unfold addLocalIndex at h
  simp only [Option.ite_none_left_eq_some] at h
  exact (Option.some.inj h.2.2).symm

theorem addIndexes_ind {P : Table → Prop} {f : Table → IndexDef → Option Table} (hf : ∀ t t' d, f t d = some t' → P t → P t')
    (ds : List IndexDef) (t t' : Table) (h : addIndexes f ds t = some t') (hp : P t) : P t' := by
  fun_induction addIndexes f ds t with
  | case1 => cases h; exact hp
  | case2 => cases h
  | case3 d _ t t1 hfd ih => exact ih h (hf t t1 d hfd hp)

theorem buildTable_ind {P : Table → Prop} {r : CreateTable} {t : Table} (h : buildTable r = some t) (h0 : P (baseTable r))
    (hg : ∀ t t' d, addGlobalIndex t r.payPerRequest d = some t' → P t → P t')
    (hl : ∀ t t' d, addLocalIndex t d = some t' → P t → P t') : P t := by
  unfold buildTable at h
  simp only [Option.ite_none_left_eq_some, addAllIndexes] at h
  obtain ⟨_, _, h⟩ := h
  split at h
  · cases h
  · next t1 hgs => exact addIndexes_ind hl _ _ _ h (addIndexes_ind hg _ _ _ hgs h0)

theorem buildTable_empty {r : CreateTable} {t : Table} (h : buildTable r = some t) :
    t.sortedKeys = [] ∧ t.data = [] ∧ t.schema = schemaOf r.key false :=
  buildTable_ind (P := fun t => t.sortedKeys = [] ∧ t.data = [] ∧ t.schema = schemaOf r.key false) h ⟨rfl, rfl, rfl⟩
    (fun _ _ _ ha h => by rw [addGlobalIndex_eq ha]; exact h) (fun _ _ _ ha h => by rw [addLocalIndex_eq ha]; exact h)

theorem updateTable.go_ind {P : Table → Prop}
    (hadd : ∀ t t' d, addGlobalIndex t (isPPR t) d = some t' → P t → P t')
    (hdrop : ∀ t n, P t → P { t with indexes := aerase n t.indexes })
    (chs : List IndexChange) (t : Table) (h : P t) : P (updateTable.go t chs).1 := by
  fun_induction updateTable.go t chs with
  | case2 t d _ t' ha ih => exact ih (hadd t t' d ha h)
  | case4 t n _ _ ih => exact ih (hdrop t n h)
  | _ => exact h

theorem updateTable.go_eq (chs : List IndexChange) (t : Table) : ∃ idx, (updateTable.go t chs).1 = { t with indexes := idx } :=
  go_ind (P := fun t' => ∃ idx, t' = { t with indexes := idx })
    (fun _ _ _ ha ⟨_, h⟩ => by subst h; exact ⟨_, (addGlobalIndex_eq ha).trans rfl⟩) (fun _ _ ⟨_, h⟩ => by subst h; exact ⟨_, rfl⟩)
    chs t ⟨_, rfl⟩

theorem updateTable_cases (c : Client) (name : Bytes) (chs : List IndexChange) :
    (∃ t defs t', alookup name c.tables = some t ∧ redefinesKeyAttr t defs = false ∧
      updateTable.go { t with attrs := defs.foldl (fun acc (n, ty) => ainsert n ty acc) t.attrs } chs = (t', none) ∧
      updateTable c name chs = (setTable c name t', .describe (describe t'))) ∨
    (∃ cls, updateTable c name chs = (c, .err cls none)) := by
  fun_cases updateTable c name chs
  -- the one branch that stores a table; the other three answer an error and return `c`
  case case3 t ht defs hr _ t' hg => exact .inl ⟨t, defs, t', ht, Bool.eq_false_iff.2 hr, hg, rfl⟩
  all_goals exact .inr ⟨_, rfl⟩

theorem updateTable_tables {c : Client} {name : Bytes} {chs : List IndexChange} {m : Bytes} {t' : Table}
    (h : alookup m (updateTable c name chs).1.tables = some t') :
    alookup m c.tables = some t' ∨
    (m = name ∧ ∃ t defs, alookup name c.tables = some t ∧ redefinesKeyAttr t defs = false ∧
      t' = (updateTable.go { t with attrs := defs.foldl (fun acc (n, ty) => ainsert n ty acc) t.attrs } chs).1) := by
  rcases updateTable_cases c name chs with ⟨t, defs, t1, ht, hr, hg, he⟩ | ⟨_, he⟩ <;> rw [he] at h
  · by_cases hm : m = name
    · rw [hm, setTable_self] at h; cases h; exact .inr ⟨hm, t, defs, ht, hr, by rw [hg]⟩
    · rw [setTable_other c _ hm] at h; exact .inl h
  · exact .inl h

theorem updateTable_frame (c : Client) (name m : Bytes) (chs : List IndexChange) (h : m ≠ name) :
    alookup m (updateTable c name chs).1.tables = alookup m c.tables := by
  rcases updateTable_cases c name chs with ⟨_, _, _, _, _, _, he⟩ | ⟨_, he⟩ <;> rw [he]
  exact setTable_other c _ h

theorem attrs_of_not_redefines {t : Table} {defs : List (Bytes × Bytes)} (h : redefinesKeyAttr t defs = false)
    {k : Bytes} (hk : k ∈ keyAttrsInUse t) :
    (alookup k (defs.foldl (fun acc (n, ty) => ainsert n ty acc) t.attrs)).getD [] = (alookup k t.attrs).getD [] := by
  refine alookup_foldl_ainsert_getD k [] defs t.attrs fun p hp hpk => ?_
  have := List.any_eq_false.1 h p hp
  obtain ⟨n, ty⟩ := p
  subst hpk
  simpa [hk] using this

theorem getItem_eq {c : Client} {table : Bytes} {t : Table} (key : Item) (hf : c.failure = none)
    (ht : alookup table c.tables = some t) :
    getItem c table key = (c, match Key.getKey t.schema t.attrs key with
      | .error _ => .err .validation none
      | .ok k => .item (some (outItem c.sdk (t.getItem k)))) := by
  simp only [getItem, hf, withTable_some _ ht]
  cases Key.getKey t.schema t.attrs key <;> rfl

theorem getItem_state (c : Client) (table : Bytes) (key : Item) : (getItem c table key).1 = c := by
  unfold getItem withTable
  split
  · rfl
  · split
    · rfl
    · dsimp only; split <;> rfl

/-- `∀ s, … { c with sdk := s }`: which of the three cases holds, and with which error, is the same for both SDK
    flavours; the flavour only picks the output mapper.  `s := c.sdk` gives the statement about `c` itself, since
    `{ c with sdk := c.sdk }` is `c` -/
theorem searchOnce_cases (c : Client) (table : Bytes) (q : Table.Query) (ex : Exprs) :
    (∃ t r, c.failure = none ∧ alookup table c.tables = some t ∧ startKeyOk t q = true ∧
      t.searchData (matcher c table ex) q = .ok r ∧
      ∀ s, searchOnce { c with sdk := s } table q ex = .ok (r.items.map (outItem s), outItem s r.lastKey)) ∨
    (∃ cls, ∀ s, searchOnce { c with sdk := s } table q ex = .error (.err cls none)) ∨
    (∃ x, ∀ s, searchOnce { c with sdk := s } table q ex = .error (.panicErr x)) := by
  unfold searchOnce
  cases hf : c.failure with
  | some f => cases f <;> exact .inr (.inl ⟨_, fun _ => rfl⟩)
  | none =>
    dsimp only
    generalize (if q.scan = true then [[], q.filter] else [q.keyCond, q.filter, []]) = exprs
    cases validateExprAttrs ex exprs with
    | false => exact .inr (.inl ⟨_, fun _ => rfl⟩)
    | true =>
      cases alookup table c.tables with
      | none => exact .inr (.inl ⟨_, fun _ => rfl⟩)
      | some t =>
        dsimp only
        cases (!q.index.isEmpty && !ahas q.index t.indexes) with
        | true => exact .inr (.inl ⟨_, fun _ => rfl⟩)
        | false =>
          cases hs : startKeyOk t q with
          | false => exact .inr (.inl ⟨_, fun _ => rfl⟩)
          | true =>
            -- `erw`: the matcher of `{ c with sdk := s }` is that of `c` only after unfolding
            cases hr : t.searchData (matcher c table ex) q with
            | ok r => exact .inl ⟨t, r, rfl, rfl, hs, hr, fun s => by erw [hr]; rfl⟩
            | error x => exact .inr (.inr ⟨_, fun s => by erw [hr]; rfl⟩)

theorem query_state (c : Client) (table : Bytes) (q : Table.Query) (ex : Exprs) : (query c table q ex).1 = c := by
  unfold query; split <;> rfl

theorem batchGet_state (c : Client) (reqs : List (Bytes × List Item)) : (batchGet c reqs).1 = c := by
  fun_cases batchGet c reqs <;> rfl

theorem run_inv {P : Client → Prop} : ∀ (ops : List Op) (c : Client),
    (∀ c op, op ∈ ops → P c → P (step c op).1) → P c → P (run c ops).1
  | [], _, _, hc => hc
  | op :: ops, c, h, hc =>
    run_inv ops _ (fun c o ho => h c o (List.mem_cons_of_mem _ ho)) (h c op (List.mem_cons_self ..) hc)

theorem batchWrite_go_inv {P : Client → Prop} (h : ∀ c t r, P c → P (applyWrite c t r).1) :
    ∀ (flat : List (Bytes × WriteReq)) (c : Client) (unp : List (Bytes × List WriteReq)), P c → P (batchWrite.go c unp flat).1
  | [], _, _, hc => hc
  | (t, r) :: rest, c, unp, hc => by
    have h1 := h c t r hc
    unfold batchWrite.go
    split
    all_goals rename_i heq; rw [heq] at h1
    · exact batchWrite_go_inv h rest _ _ h1
    · exact h1
    · exact h1
    · exact batchWrite_go_inv h rest _ _ h1

theorem batchWrite_inv {P : Client → Prop} (h : ∀ c t r, P c → P (applyWrite c t r).1) (c : Client)
    (reqs : List (Bytes × List WriteReq)) (hc : P c) : P (batchWrite c reqs).1 := by
  unfold batchWrite
  dsimp only
  split
  · exact hc
  · exact batchWrite_go_inv h _ c [] hc

theorem pagesLoop_inv {P : Client → Prop} (table : Bytes) (ex : Exprs) (da : Option Nat)
    (h : ∀ c key, P c → P (deleteItem c table key none {} false).1)
    (fuel n : Nat) (q : Table.Query) (c : Client) (acc : List (List Item × Item)) (hc : P c) :
    P (pagesLoop table q ex da fuel n c acc).1 := by
  fun_induction pagesLoop table q ex da fuel n c acc with
  | case7 _ _ _ c _ _ _ _ _ _ c' ih =>
    -- the next page is read from `c'`: `c`, or `c` after the item named by the LastEvaluatedKey was deleted
    refine ih ?_
    dsimp only [c']
    split
    · split
      · exact h c _ hc
      · exact hc
    · exact hc
  | _ => exact hc

end Client
end Minidyn

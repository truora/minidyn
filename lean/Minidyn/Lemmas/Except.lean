/-
  Minidyn.Lemmas.Except — a successful `do` block of the model, taken apart.
-/
namespace Minidyn

theorem Except.of_bind_ok {ε α β : Type} {x : Except ε α} {f : α → Except ε β} {b : β}
    (h : x >>= f = .ok b) : ∃ a, x = .ok a ∧ f a = .ok b := by
  cases x with
  | error e => cases h
  | ok a => exact ⟨a, rfl, h⟩

end Minidyn

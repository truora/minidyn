/-
  Minidyn.Lemmas.Key — key strings (`Model.Table`, namespace `Key`): when `keyAttrValue`, `keyValue` and `getKey` succeed
  and what they answer; that they look at the key attributes of the item and at the declared types of these only; what a
  key item (`keyItem`) holds.
-/
import Minidyn.Model.Table
import Minidyn.Lemmas.Assoc
namespace Minidyn.Key

theorem keyAttrValue_ok_iff {ks : KeySchema} {attrs : List (Bytes × Bytes)} {i : Item} {f a : Bytes} :
    keyAttrValue ks attrs i f = .ok a ↔ itemValue attrs i f = .ok a ∧
      (!ks.secondary && ((alookup f i).map emptyValue).getD false) = false := by
  unfold keyAttrValue
  cases itemValue attrs i f with
  | error e => simp [bind, Except.bind]
  | ok b =>
    simp only [bind, Except.bind]
    cases (!ks.secondary && ((alookup f i).map emptyValue).getD false) <;>
      simp [pure, Except.pure, throw, throwThe, MonadExceptOf.throw]

theorem keyAttrValue_ok {ks : KeySchema} {attrs : List (Bytes × Bytes)} {i : Item} {f a : Bytes}
    (h : keyAttrValue ks attrs i f = .ok a) : itemValue attrs i f = .ok a := (keyAttrValue_ok_iff.1 h).1

theorem keyValue_ok_iff {ks : KeySchema} {attrs : List (Bytes × Bytes)} {i : Item} {k : Bytes} :
    keyValue ks attrs i = .ok k ↔ ∃ a, keyAttrValue ks attrs i ks.hash = .ok a ∧
      if ks.range.isEmpty then k = a else ∃ b, keyAttrValue ks attrs i ks.range = .ok b ∧ k = escape a ++ [46] ++ b := by
  unfold keyValue
  cases keyAttrValue ks attrs i ks.hash with
  | error e => simp [bind, Except.bind]
  | ok a =>
    simp only [bind, Except.bind, Except.ok.injEq, exists_eq_left']
    split
    · simp [pure, Except.pure, eq_comm]
    · cases keyAttrValue ks attrs i ks.range <;> simp [pure, Except.pure, eq_comm]

theorem getKey_primary {ks : KeySchema} (hs : ks.secondary = false) (attrs : List (Bytes × Bytes)) (item : Item) :
    getKey ks attrs item = keyValue ks attrs item := by
  unfold getKey
  rw [hs]
  cases keyValue ks attrs item with
  | ok k => rfl
  | error e => cases e <;> rfl

theorem render_nonempty {v : AV} {typ s : Bytes} (h : render v typ = some s) (he : emptyValue v = false) : s ≠ [] := by
  revert h
  fun_cases render v typ <;> intro h <;> cases h
  -- a string or a number is rendered as its text; a binary value begins with `[`
  · exact List.isEmpty_eq_false_iff.1 he
  · exact List.isEmpty_eq_false_iff.1 he
  · exact List.cons_ne_nil _ _

theorem keyAttrValue_nonempty {ks : KeySchema} {attrs : List (Bytes × Bytes)} {i : Item} {f a : Bytes}
    (hs : ks.secondary = false) (h : keyAttrValue ks attrs i f = .ok a) : a ≠ [] := by
  obtain ⟨hv, he⟩ := keyAttrValue_ok_iff.1 h
  unfold itemValue at hv
  cases hl : alookup f i with
  | none => simp [hl] at hv
  | some v =>
    simp only [hl, hs, Bool.not_false, Bool.true_and, Option.map_some, Option.getD_some] at hv he
    split at hv <;> cases hv
    exact render_nonempty (by assumption) he

theorem getKey_attrs_congr (ks : KeySchema) (attrs attrs' : List (Bytes × Bytes)) (item : Item)
    (hh : (alookup ks.hash attrs').getD [] = (alookup ks.hash attrs).getD [])
    (hr : (alookup ks.range attrs').getD [] = (alookup ks.range attrs).getD []) :
    getKey ks attrs' item = getKey ks attrs item := by
  unfold getKey Key.keyValue Key.keyAttrValue Key.itemValue
  rw [hh, hr]

theorem has_hash_of_getKey {ks : KeySchema} {attrs : List (Bytes × Bytes)} {item : Item} {k : Bytes}
    (hs : ks.secondary = false) (h : getKey ks attrs item = .ok k) : ahas ks.hash item = true := by
  rw [getKey_primary hs] at h
  obtain ⟨a, h1, _⟩ := keyValue_ok_iff.1 h
  have h2 := keyAttrValue_ok h1
  unfold itemValue at h2
  cases h3 : alookup ks.hash item with
  | none => simp [h3] at h2
  | some v => simp [ahas, h3]

theorem alookup_entry (k f : Bytes) (item : Item) :
    alookup f (match alookup k item with | some v => [(k, v)] | none => []) = if k = f then alookup f item else none := by
  by_cases h : k = f
  · subst h; cases alookup k item <;> simp [alookup]
  · cases alookup k item <;> simp [alookup, h]

theorem alookup_keyItem (ks : KeySchema) (item : Item) (f : Bytes) :
    alookup f (keyItem ks item) =
      if ks.hash = f ∨ (ks.range.isEmpty = false ∧ ks.range = f) then alookup f item else none := by
  unfold keyItem
  -- `erw`: the `match` inside `keyItem` is another constant than the one `alookup_entry` is written with
  rw [alookup_append]; erw [alookup_entry]
  cases ks.range.isEmpty
  · simp only [Bool.false_eq_true, if_false, true_and]; erw [alookup_entry]
    by_cases h1 : ks.hash = f <;> by_cases h2 : ks.range = f <;> simp [h1, h2]
  · by_cases h1 : ks.hash = f <;> simp [h1]

theorem alookup_keyItem_hash (ks : KeySchema) (item : Item) : alookup ks.hash (keyItem ks item) = alookup ks.hash item := by
  rw [alookup_keyItem, if_pos (.inl rfl)]

theorem alookup_keyItem_range (ks : KeySchema) (item : Item) (hr : ks.range.isEmpty = false) :
    alookup ks.range (keyItem ks item) = alookup ks.range item := by
  rw [alookup_keyItem, if_pos (.inr ⟨hr, rfl⟩)]

theorem keyItem_entry (ks : KeySchema) (item : Item) : ∀ p ∈ keyItem ks item, alookup p.1 item = some p.2 := by
  intro p hp
  unfold keyItem at hp
  rcases List.mem_append.1 hp with hp | hp
  · cases hh : alookup ks.hash item <;> simp only [hh, List.mem_singleton, List.not_mem_nil] at hp
    rw [hp]; exact hh
  · split at hp
    · cases hp
    · cases hh : alookup ks.range item <;> simp only [hh, List.mem_singleton, List.not_mem_nil] at hp
      rw [hp]; exact hh

theorem keyAttrValue_congr (ks : KeySchema) (attrs : List (Bytes × Bytes)) (i j : Item) (f : Bytes)
    (h : alookup f i = alookup f j) : keyAttrValue ks attrs i f = keyAttrValue ks attrs j f := by
  simp only [keyAttrValue, itemValue, h]

theorem getKey_congr (ks : KeySchema) (attrs : List (Bytes × Bytes)) (i j : Item)
    (hh : alookup ks.hash i = alookup ks.hash j) (hr : ks.range.isEmpty = false → alookup ks.range i = alookup ks.range j) :
    getKey ks attrs i = getKey ks attrs j := by
  have hv : keyValue ks attrs i = keyValue ks attrs j := by
    unfold keyValue
    rw [keyAttrValue_congr ks attrs i j ks.hash hh]
    cases he : ks.range.isEmpty with
    | true => rfl
    | false => rw [keyAttrValue_congr ks attrs i j ks.range (hr he)]
  unfold getKey
  rw [hv]

theorem getKey_keyItem (ks : KeySchema) (attrs : List (Bytes × Bytes)) (item : Item) :
    getKey ks attrs (keyItem ks item) = getKey ks attrs item :=
  getKey_congr _ _ _ _ (alookup_keyItem_hash ks item) (alookup_keyItem_range ks item)

theorem ne_nil_of_getKey {ks : KeySchema} {attrs : List (Bytes × Bytes)} {item : Item} {k : Bytes}
    (hs : ks.secondary = false) (h : getKey ks attrs item = .ok k) : item ≠ [] := by
  rintro rfl
  cases has_hash_of_getKey hs h

theorem keyItem_nil (ks : KeySchema) : keyItem ks [] = [] := by
  simp [keyItem, alookup]

end Minidyn.Key

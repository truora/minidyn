/-
  Minidyn.Lemmas.Order — `Bytes.cmp` (Go's `<` on strings) decides the lexicographic order of Lean's library, a total
  order; for a transitive relation `SortedBy` is `List.Pairwise`; `sortBy` (insertion sort, for `sort.Strings`) sorts.
-/
import Minidyn.Model.Basic
namespace Minidyn

namespace Bytes

/-- `cmp` decides `List.lt`, the lexicographic order of Lean's library, so that the library's theory of it applies -/
theorem cmp_spec : ∀ (a b : Bytes), (cmp a b = .lt ↔ a < b) ∧ (cmp a b = .eq ↔ a = b) ∧ (cmp a b = .gt ↔ b < a)
  | [], [] => by simp [cmp]
  | [], _ :: _ => by simp [cmp]
  | _ :: _, [] => by simp [cmp]
  | x :: xs, y :: ys => by
    have ih := cmp_spec xs ys
    simp only [cmp, List.cons_lt_cons_iff, List.cons.injEq]
    rcases Nat.lt_trichotomy x y with h | rfl | h
    · simp [h, Nat.lt_asymm h, Nat.ne_of_lt h, Nat.ne_of_gt h]
    · simpa [Nat.lt_irrefl] using ih
    · simp [h, Nat.lt_asymm h, Nat.ne_of_lt h, Nat.ne_of_gt h]

theorem cmp_refl (a : Bytes) : cmp a a = .eq := (cmp_spec a a).2.1.2 rfl

theorem cmp_eq_iff {a b : Bytes} : cmp a b = .eq ↔ a = b := (cmp_spec a b).2.1

theorem cmp_lt_gt {a b : Bytes} : cmp a b = .lt ↔ cmp b a = .gt := (cmp_spec a b).1.trans (cmp_spec b a).2.2.symm

theorem cmp_trans_lt {a b c : Bytes} (h1 : cmp a b = .lt) (h2 : cmp b c = .lt) : cmp a c = .lt :=
  (cmp_spec a c).1.2 (List.lt_trans ((cmp_spec a b).1.1 h1) ((cmp_spec b c).1.1 h2))

theorem le_iff {a b : Bytes} : le a b = true ↔ a ≤ b := by
  rw [← List.not_lt, ← (cmp_spec a b).2.2]; simp [le]

theorem le_refl (a : Bytes) : le a a = true := le_iff.2 (List.le_refl a)

theorem le_total (a b : Bytes) : le a b = true ∨ le b a = true := by
  rw [le_iff, le_iff]; exact List.le_total a b

theorem le_antisymm {a b : Bytes} (h1 : le a b = true) (h2 : le b a = true) : a = b :=
  List.le_antisymm (le_iff.1 h1) (le_iff.1 h2)

theorem le_trans {a b c : Bytes} (h1 : le a b = true) (h2 : le b c = true) : le a c = true :=
  le_iff.2 (List.le_trans (le_iff.1 h1) (le_iff.1 h2))

theorem le_trans' : ∀ a b c : Bytes, le a b = true → le b c = true → le a c = true :=
  fun _ _ _ => le_trans

theorem lt_iff_le_ne {a b : Bytes} : lt a b = true ↔ (le a b = true ∧ a ≠ b) := by
  rw [le_iff, List.le_iff_lt_or_eq, ← (cmp_spec a b).1]
  simp only [lt, beq_iff_eq]
  exact ⟨fun h => ⟨.inl h, fun e => by rw [e, cmp_refl] at h; cases h⟩, fun ⟨h, hne⟩ => h.resolve_right hne⟩

end Bytes

def SortedBy {α} (le : α → α → Bool) : List α → Prop
  | [] => True
  | [_] => True
  | x :: y :: rest => le x y = true ∧ SortedBy le (y :: rest)

theorem SortedBy.tail {α} {le : α → α → Bool} {x : α} {xs : List α} (h : SortedBy le (x :: xs)) : SortedBy le xs := by
  cases xs with
  | nil => trivial
  | cons y ys => exact h.2

theorem sortedBy_cons_iff {α} {le : α → α → Bool} (trans : ∀ a b c, le a b = true → le b c = true → le a c = true)
    {x : α} {xs : List α} : SortedBy le (x :: xs) ↔ ((∀ y ∈ xs, le x y = true) ∧ SortedBy le xs) := by
  induction xs generalizing x with
  | nil => simp [SortedBy]
  | cons y ys ih =>
    rw [SortedBy, List.forall_mem_cons]
    exact ⟨fun h => ⟨⟨h.1, fun z hz => trans _ _ _ h.1 ((ih.1 h.2).1 z hz)⟩, h.2⟩, fun h => ⟨h.1.1, h.2⟩⟩

theorem sortedBy_iff_pairwise {α} {le : α → α → Bool} (trans : ∀ a b c, le a b = true → le b c = true → le a c = true) :
    ∀ l : List α, SortedBy le l ↔ l.Pairwise (fun a b => le a b = true)
  | [] => by simp [SortedBy]
  | x :: xs => by rw [sortedBy_cons_iff trans, List.pairwise_cons, sortedBy_iff_pairwise trans xs]

theorem SortedBy.sublist {α} {le : α → α → Bool} (trans : ∀ a b c, le a b = true → le b c = true → le a c = true)
    {l l' : List α} (h : l'.Sublist l) (hs : SortedBy le l) : SortedBy le l' :=
  (sortedBy_iff_pairwise trans l').2 (((sortedBy_iff_pairwise trans l).1 hs).sublist h)

theorem insertBy_perm {α} (le : α → α → Bool) (x : α) (l : List α) : (insertBy le x l).Perm (x :: l) := by
  induction l with
  | nil => exact List.Perm.refl _
  | cons y ys ih =>
    simp only [insertBy]
    split
    · exact List.Perm.refl _
    · exact (List.Perm.cons y ih).trans (List.Perm.swap x y ys)

theorem mem_insertBy {α} (le : α → α → Bool) (x : α) (l : List α) (z : α) : z ∈ insertBy le x l ↔ z = x ∨ z ∈ l :=
  (insertBy_perm le x l).mem_iff.trans List.mem_cons

theorem sortBy_perm {α} (le : α → α → Bool) (l : List α) : (sortBy le l).Perm l := by
  induction l with
  | nil => exact List.Perm.refl _
  | cons x xs ih => exact (insertBy_perm le x _).trans (List.Perm.cons x ih)

theorem sortedBy_insertBy {α} {le : α → α → Bool}
    (total : ∀ a b, le a b = true ∨ le b a = true)
    (trans : ∀ a b c, le a b = true → le b c = true → le a c = true)
    (x : α) {l : List α} (h : SortedBy le l) : SortedBy le (insertBy le x l) := by
  induction l with
  | nil => trivial
  | cons y ys ih =>
    rw [insertBy]
    split
    · next hxy => exact ⟨hxy, h⟩
    · next hxy =>
      -- `y` stays in front: it is below `x`, by totality, and below the rest as before
      refine (sortedBy_cons_iff trans).2 ⟨fun z hz => ?_, ih h.tail⟩
      rcases (mem_insertBy le x ys z).1 hz with rfl | hz
      · exact (total z y).resolve_left hxy
      · exact ((sortedBy_cons_iff trans).1 h).1 z hz

theorem sortedBy_sortBy {α} {le : α → α → Bool}
    (total : ∀ a b, le a b = true ∨ le b a = true)
    (trans : ∀ a b c, le a b = true → le b c = true → le a c = true)
    (l : List α) : SortedBy le (sortBy le l) := by
  induction l with
  | nil => trivial
  | cons x xs ih => exact sortedBy_insertBy total trans x ih

theorem sorted_perm_eq : ∀ (l1 l2 : List Bytes), SortedBy Bytes.le l1 → SortedBy Bytes.le l2 → l1.Perm l2 → l1 = l2 :=
  fun l1 l2 h1 h2 hp => hp.eq_of_pairwise (fun _ _ _ _ => Bytes.le_antisymm)
    ((sortedBy_iff_pairwise Bytes.le_trans' l1).1 h1) ((sortedBy_iff_pairwise Bytes.le_trans' l2).1 h2)

theorem sortedBy_sortBytes (l : List Bytes) : SortedBy Bytes.le (sortBytes l) :=
  sortedBy_sortBy Bytes.le_total Bytes.le_trans' l

theorem mem_sortBytes (l : List Bytes) (z : Bytes) : z ∈ sortBytes l ↔ z ∈ l :=
  (sortBy_perm Bytes.le l).mem_iff

theorem nodup_sortBytes {l : List Bytes} (h : l.Nodup) : (sortBytes l).Nodup :=
  (sortBy_perm Bytes.le l).nodup_iff.mpr h

end Minidyn

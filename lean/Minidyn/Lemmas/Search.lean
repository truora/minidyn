/-
  Minidyn.Lemmas.Search — `goSearchAux` is the loop of Go's `sort.Search`: for a monotone predicate it returns the first
  index at which the predicate holds.  Consequences for `sort.SearchStrings` on sorted lists; `removeAt`, the deletion
  at the position found, is `List.eraseIdx`.
-/
import Minidyn.Lemmas.Order
namespace Minidyn

theorem goSearchAux_spec (p : Nat → Bool) (mono : ∀ a b, a ≤ b → p a = true → p b = true) :
    ∀ fuel i j, i ≤ j → j < i + fuel → (∀ k, k < i → p k = false) → (∀ k, j ≤ k → p k = true) →
      goSearchAux p fuel i j ≤ j ∧
      (∀ k, k < goSearchAux p fuel i j → p k = false) ∧ (∀ k, goSearchAux p fuel i j ≤ k → p k = true) := by
  intro fuel
  induction fuel with
  | zero => intro i j _ h; omega
  | succ f ih =>
    intro i j hij hf hlo hhi
    rw [goSearchAux]
    split
    · -- `omega` sees the division once; below, the midpoint is a variable
      have hmid : i ≤ (i + j) / 2 ∧ (i + j) / 2 < j := by omega
      generalize (i + j) / 2 = mid at hmid ⊢
      cases hp : p mid <;> simp only [hp, Bool.not_false, Bool.not_true, if_true, Bool.false_eq_true, if_false]
      · -- the predicate fails at the midpoint, hence everywhere up to it
        exact ih (mid + 1) j hmid.2 (by omega)
          (fun k hk => Bool.eq_false_iff.2 fun hk' => by rw [mono k mid (Nat.le_of_lt_succ hk) hk'] at hp; cases hp) hhi
      · have := ih i mid hmid.1 (by omega) hlo (fun k hk => mono _ _ hk hp)
        exact ⟨Nat.le_trans this.1 (Nat.le_of_lt hmid.2), this.2⟩
    · cases Nat.le_antisymm hij (Nat.not_lt.1 ‹_›)
      exact ⟨Nat.le_refl _, hlo, hhi⟩

theorem goSearch_spec (n : Nat) (p : Nat → Bool) (mono : ∀ a b, a ≤ b → p a = true → p b = true)
    (hbeyond : ∀ k, n ≤ k → p k = true) :
    goSearch n p ≤ n ∧ (∀ k, k < goSearch n p → p k = false) ∧ (∀ k, goSearch n p ≤ k → p k = true) :=
  goSearchAux_spec p mono (n + 1) 0 n (Nat.zero_le _) (by rw [Nat.zero_add]; exact Nat.lt_succ_self n) (fun _ hk => nomatch hk) hbeyond

theorem sortedBy_getElem_le {l : List Bytes} (h : SortedBy Bytes.le l) (i j : Nat) (hi : i < l.length) (hj : j < l.length)
    (hij : i ≤ j) : Bytes.le l[i] l[j] = true := by
  rcases Nat.lt_or_eq_of_le hij with hlt | rfl
  · exact List.pairwise_iff_getElem.1 ((sortedBy_iff_pairwise Bytes.le_trans' l).1 h) i j hi hj hlt
  · exact Bytes.le_refl _

/-- `sort.SearchStrings` on a sorted list answers the first position whose element is ≥ `x` -/
theorem searchStrings_spec {l : List Bytes} (h : SortedBy Bytes.le l) (x : Bytes) :
    searchStrings l x ≤ l.length ∧
    (∀ k (hk : k < l.length), k < searchStrings l x → Bytes.le x l[k] = false) ∧
    (∀ k (hk : k < l.length), searchStrings l x ≤ k → Bytes.le x l[k] = true) := by
  let P := fun (i : Nat) => match l[i]? with | some y => Bytes.le x y | none => true
  have hin : ∀ k (hk : k < l.length), P k = Bytes.le x l[k] := fun k hk => by simp only [P, List.getElem?_eq_getElem hk]
  have hout : ∀ k, l.length ≤ k → P k = true := fun k hk => by simp only [P, List.getElem?_eq_none hk]
  have mono : ∀ a b, a ≤ b → P a = true → P b = true := by
    intro a b hab ha
    rcases Nat.lt_or_ge b l.length with hb | hb
    · have ha' : a < l.length := Nat.lt_of_le_of_lt hab hb
      rw [hin b hb]; rw [hin a ha'] at ha
      exact Bytes.le_trans ha (sortedBy_getElem_le h a b ha' hb hab)
    · exact hout b hb
  have sp : searchStrings l x ≤ _ ∧ _ := goSearch_spec l.length P mono hout
  exact ⟨sp.1, fun k hk hlt => hin k hk ▸ sp.2.1 k hlt, fun k hk hle => hin k hk ▸ sp.2.2 k hle⟩

theorem searchStrings_of_mem {l : List Bytes} (hs : SortedBy Bytes.le l) (x : Bytes) (hx : x ∈ l) :
    ∃ (h : searchStrings l x < l.length), l[searchStrings l x] = x := by
  have sp := searchStrings_spec hs x
  obtain ⟨i, hi, hix⟩ := List.getElem_of_mem hx
  have hle : searchStrings l x ≤ i := Nat.le_of_not_lt fun hlt => by
    have := sp.2.1 i hi hlt
    rw [hix, Bytes.le_refl] at this; cases this
  have hlen : searchStrings l x < l.length := Nat.lt_of_le_of_lt hle hi
  refine ⟨hlen, ?_⟩
  have h1 := sp.2.2 _ hlen (Nat.le_refl _)
  have h2 := sortedBy_getElem_le hs _ i hlen hi hle
  rw [hix] at h2
  exact (Bytes.le_antisymm h1 h2).symm

theorem removeAt_eq_eraseIdx {α} : ∀ (l : List α) (n : Nat), removeAt l n = l.eraseIdx n
  | [], _ => rfl
  | _ :: _, 0 => rfl
  | x :: xs, n + 1 => congrArg (x :: ·) (removeAt_eq_eraseIdx xs n)

theorem removeAt_sublist {α} (l : List α) (pos : Nat) : (removeAt l pos).Sublist l :=
  removeAt_eq_eraseIdx l pos ▸ List.eraseIdx_sublist l pos

theorem mem_removeAt {α} {l : List α} (hn : l.Nodup) {pos : Nat} (hp : pos < l.length) (z : α) :
    z ∈ removeAt l pos ↔ (z ∈ l ∧ z ≠ l[pos]) := by
  rw [removeAt_eq_eraseIdx, List.mem_eraseIdx_iff_getElem]
  constructor
  · rintro ⟨i, h, hne, rfl⟩; exact ⟨List.getElem_mem _, fun e => hne ((List.getElem_inj hn).1 e)⟩
  · rintro ⟨hz, hne⟩
    obtain ⟨i, h, rfl⟩ := List.getElem_of_mem hz
    exact ⟨i, h, fun e => hne (by subst e; rfl), rfl⟩

theorem perm_cons_removeAt {α} : ∀ (l : List α) (pos : Nat) (h : pos < l.length), (l[pos] :: removeAt l pos).Perm l
  | [], _, h => nomatch h
  | _ :: _, 0, _ => .refl _
  | x :: xs, p + 1, h => (List.Perm.swap ..).trans ((perm_cons_removeAt xs p (Nat.lt_of_succ_lt_succ h)).cons x)

end Minidyn

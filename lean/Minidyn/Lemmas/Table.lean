/-
  Minidyn.Lemmas.Table — the three writes of `Model.Table` in equational form.

  `put_ok_iff`, `update_ok_iff`, `delete_ok_iff` say once when a write succeeds and which table it answers: the
  table with the item `store`d (put, update) or the key `erase`d (delete).  A theorem about a successful
  write starts from one of them; what it then needs is a fact about `store` or `erase`.
-/
import Minidyn.Model.Table
import Minidyn.Lemmas.Assoc
namespace Minidyn

namespace Index

theorem remove_schema (ix : Index) (key : Bytes) : (ix.remove key).schema = ix.schema := by
  fun_cases Index.remove ix key <;> rfl

theorem remove_refs (ix : Index) (key : Bytes) : (ix.remove key).refs = aerase key ix.refs := by
  fun_cases Index.remove ix key
  · next h => exact (aerase_of_not_mem (alookup_eq_none_iff.1 h)).symm
  all_goals rfl

theorem set_schema {ix ix' : Index} {attrs : List (Bytes × Bytes)} {key : Bytes} {item : Item}
    (hs : ix.set attrs key item = .ok ix') : ix'.schema = ix.schema := by
  unfold Index.set at hs
  cases hk : Key.getKey ix.schema attrs item with
  | error e => simp [hk] at hs
  | ok ik => simp only [hk] at hs; split at hs <;> (cases hs; exact remove_schema ix key)

theorem set_isOk {ix : Index} {attrs : List (Bytes × Bytes)} {key : Bytes} {item : Item} {ik : Bytes}
    (hk : Key.getKey ix.schema attrs item = .ok ik) : ∃ ix', ix.set attrs key item = .ok ix' := by
  unfold Index.set
  simp only [hk]
  split <;> exact ⟨_, rfl⟩

/-- `Index.set` where it succeeds, the index as it was where it fails: what `Table.indexSet` and the backfill of a new
    global index (`Client.backfill`) do with every index -/
def setOrKeep (ix : Index) (attrs : List (Bytes × Bytes)) (key : Bytes) (item : Item) : Index :=
  match ix.set attrs key item with
  | .ok ix' => ix'
  | .error _ => ix

theorem setOrKeep_cases (ix : Index) (attrs : List (Bytes × Bytes)) (key : Bytes) (item : Item) :
    (∃ e, Key.getKey ix.schema attrs item = .error e ∧ ix.setOrKeep attrs key item = ix) ∨
    ix.set attrs key item = .ok (ix.setOrKeep attrs key item) := by
  unfold setOrKeep set
  cases Key.getKey ix.schema attrs item with
  | error e => exact .inl ⟨e, rfl, rfl⟩
  | ok ik => right; dsimp only; split <;> rfl

theorem setOrKeep_schema (ix : Index) (attrs : List (Bytes × Bytes)) (key : Bytes) (item : Item) :
    (ix.setOrKeep attrs key item).schema = ix.schema := by
  unfold setOrKeep
  cases hs : ix.set attrs key item with
  | error e => rfl
  | ok ix' => exact set_schema hs

end Index

namespace Table

theorem setItem_data (t : Table) (key : Bytes) (item : Item) : (t.setItem key item).data = ainsert key item t.data := by
  unfold setItem; split <;> rfl

theorem setItem_indexes (t : Table) (key : Bytes) (item : Item) : (t.setItem key item).indexes = t.indexes := by
  unfold setItem; split <;> rfl

theorem setItem_attrs (t : Table) (key : Bytes) (item : Item) : (t.setItem key item).attrs = t.attrs := by
  unfold setItem; split <;> rfl

theorem setItem_schema (t : Table) (key : Bytes) (item : Item) : (t.setItem key item).schema = t.schema := by
  unfold setItem; split <;> rfl

theorem indexSet_eq (t : Table) (key : Bytes) (item : Item) :
    t.indexSet key item = t.mapIndexes (·.setOrKeep t.attrs key item) := by unfold indexSet Index.setOrKeep; rfl

variable {t t' : Table} {m : Matcher} {cond : Option Bytes}

/-- what PutItem and UpdateItem do to the table once the item to store is known -/
def store (t : Table) (key : Bytes) (item : Item) : Table := (t.setItem key item).indexSet key item

theorem store_data (t : Table) (key : Bytes) (item : Item) : (t.store key item).data = ainsert key item t.data :=
  setItem_data t key item

theorem store_schema (t : Table) (key : Bytes) (item : Item) : (t.store key item).schema = t.schema :=
  setItem_schema t key item

theorem store_attrs (t : Table) (key : Bytes) (item : Item) : (t.store key item).attrs = t.attrs :=
  setItem_attrs t key item

theorem validateIndexKeys_mapIndexes (t : Table) {f : Index → Index} (hf : ∀ ix, (f ix).schema = ix.schema) (item : Item) :
    (t.mapIndexes f).validateIndexKeys item = t.validateIndexKeys item := by
  simp only [validateIndexKeys, mapIndexes, List.all_map, Function.comp_def, hf]

theorem store_eq (t : Table) (key : Bytes) (item : Item) :
    t.store key item = (t.setItem key item).mapIndexes (·.setOrKeep t.attrs key item) := by
  rw [store, indexSet_eq, setItem_attrs]

theorem store_validateIndexKeys (t : Table) (key : Bytes) (item it : Item) :
    (t.store key item).validateIndexKeys it = t.validateIndexKeys it := by
  rw [store_eq, validateIndexKeys_mapIndexes _ (fun ix => Index.setOrKeep_schema ix _ key item),
    validateIndexKeys, setItem_indexes, setItem_attrs, validateIndexKeys]

/-- what DeleteItem does to the table once the key string is known -/
def erase (t : Table) (key : Bytes) : Table :=
  match alookup key t.data with
  | none => t
  | some _ =>
    let pos := searchStrings t.sortedKeys key
    if pos == t.sortedKeys.length then { t with data := aerase key t.data }
    else ({ t with data := aerase key t.data, sortedKeys := removeAt t.sortedKeys pos }).mapIndexes fun ix => ix.remove key

theorem put_ok_iff {item : Item} : t.put m item cond = .ok t' ↔
    ∃ key, Key.getKey t.schema t.attrs item = .ok key ∧ checkCondition m cond (t.getItem key) = .ok () ∧
      t.validateIndexKeys item = true ∧ t' = t.store key item := by
  unfold Table.put
  cases Key.getKey t.schema t.attrs item with
  | error e => simp
  | ok key =>
    -- from here on the right side speaks of this `key`, so that the case distinctions below rewrite both sides
    simp only [Except.ok.injEq, exists_eq_left']
    cases checkCondition m cond (t.getItem key) with
    | error e => simp [bind, Except.bind]
    | ok u => cases t.validateIndexKeys item <;> simp [bind, Except.bind, pure, Except.pure, store, eq_comm]

theorem update_ok_iff {upd : Updater} {keyAttrs res : Item} : t.update m upd keyAttrs cond = .ok (t', res) ↔
    ∃ key, Key.getKey t.schema t.attrs keyAttrs = .ok key ∧ checkCondition m cond (t.getItem key) = .ok () ∧
      upd ((alookup key t.data).getD keyAttrs) = .ok res ∧ t.validateIndexKeys res = true ∧ t' = t.store key res := by
  unfold Table.update
  cases Key.getKey t.schema t.attrs keyAttrs with
  | error e => simp
  | ok key =>
    simp only [Except.ok.injEq, exists_eq_left']
    rw [show (alookup key t.data).getD [] = t.getItem key from rfl]
    cases checkCondition m cond (t.getItem key) with
    | error e => simp [bind, Except.bind]
    | ok u =>
      cases upd ((alookup key t.data).getD keyAttrs) with
      | error e => simp [bind, Except.bind]
      | ok item =>
        simp only [bind, Except.bind, Except.ok.injEq, true_and]
        constructor
        · intro h
          split at h
          · cases h
          · next hv => cases h; exact ⟨rfl, by simpa using hv, rfl⟩
        · rintro ⟨rfl, hv, rfl⟩
          simp [hv, pure, Except.pure, store]

theorem delete_ok_iff {keyAttrs : Item} {old : Option Item} : t.delete m keyAttrs cond = .ok (t', old) ↔
    ∃ key, Key.getKey t.schema t.attrs keyAttrs = .ok key ∧ checkCondition m cond (t.getItem key) = .ok () ∧
      old = alookup key t.data ∧ t' = t.erase key := by
  unfold Table.delete
  cases Key.getKey t.schema t.attrs keyAttrs with
  | error e => simp
  | ok key =>
    simp only [Except.ok.injEq, exists_eq_left']
    cases checkCondition m cond (t.getItem key) with
    | error e => simp [bind, Except.bind]
    | ok u =>
      simp only [bind, Except.bind, erase, true_and]
      cases alookup key t.data with
      | none => exact ⟨by rintro ⟨⟩; exact ⟨rfl, rfl⟩, by rintro ⟨rfl, rfl⟩; rfl⟩
      | some item => dsimp only; split <;> exact ⟨by rintro ⟨⟩; exact ⟨rfl, rfl⟩, by rintro ⟨rfl, rfl⟩; rfl⟩

theorem put_of_check_error {item : Item} {key : Bytes} {e : WriteErr} (hk : Key.getKey t.schema t.attrs item = .ok key)
    (hc : checkCondition m cond (t.getItem key) = .error e) : t.put m item cond = .error e := by
  simp only [Table.put, hk, hc, bind, Except.bind]

theorem update_of_check_error {upd : Updater} {keyAttrs : Item} {key : Bytes} {e : WriteErr}
    (hk : Key.getKey t.schema t.attrs keyAttrs = .ok key) (hc : checkCondition m cond (t.getItem key) = .error e) :
    t.update m upd keyAttrs cond = .error e := by
  simp only [Table.update, hk, show (alookup key t.data).getD [] = t.getItem key from rfl, hc, bind, Except.bind]

theorem delete_of_check_error {keyAttrs : Item} {key : Bytes} {e : WriteErr}
    (hk : Key.getKey t.schema t.attrs keyAttrs = .ok key) (hc : checkCondition m cond (t.getItem key) = .error e) :
    t.delete m keyAttrs cond = .error e := by
  simp only [Table.delete, hk, hc, bind, Except.bind]

theorem erase_of_absent {t : Table} {key : Bytes} (h : alookup key t.data = none) : t.erase key = t := by
  simp only [erase, h]

theorem erase_eq (t : Table) (key : Bytes) :
    ∃ sk idx, t.erase key = { t with data := aerase key t.data, sortedKeys := sk, indexes := idx } := by
  fun_cases erase t key
  · next h => exact ⟨_, _, by rw [aerase_of_not_mem (alookup_eq_none_iff.1 h)]⟩
  all_goals exact ⟨_, _, rfl⟩

theorem erase_data (t : Table) (key : Bytes) : (t.erase key).data = aerase key t.data := by
  obtain ⟨_, _, h⟩ := erase_eq t key; rw [h]

theorem erase_schema (t : Table) (key : Bytes) : (t.erase key).schema = t.schema := by
  obtain ⟨_, _, h⟩ := erase_eq t key; rw [h]

theorem erase_attrs (t : Table) (key : Bytes) : (t.erase key).attrs = t.attrs := by
  obtain ⟨_, _, h⟩ := erase_eq t key; rw [h]

end Table
end Minidyn

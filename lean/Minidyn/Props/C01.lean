/-
  Minidyn.Props.C01 — `Put`, `Delete`, `Update` and `getItem` of core/table.go (`Model.Table`) behave as a map from key
  strings to items (`abs`).

  `TableInv`: `SortedKeys` is sorted, duplicate-free and holds exactly the keys of `Data`; a new or cleared table has it
  (`tableInv_new`) and every successful write keeps it.  `put_ok`, `delete_ok`, `update_ok`: a successful write changes
  `abs` at the key string of its own key attributes and at no other (`abs_store`, `abs_erase` need no invariant).  The
  interpreter (matcher, updater) is a parameter of every theorem.  The client operations are in `Props.Refine`; that a
  key string determines the texts of the key attributes is `Props.C13`.
-/
import Minidyn.Model.Table
import Minidyn.Lemmas.Assoc
import Minidyn.Lemmas.Search
import Minidyn.Lemmas.Table
import Minidyn.Props.C05
namespace Minidyn.Props.C01

structure TableInv (t : Table) : Prop where
  sorted : SortedBy Bytes.le t.sortedKeys
  nodup : t.sortedKeys.Nodup
  dataNodup : (keysOf t.data).Nodup
  memIff : ∀ k, k ∈ t.sortedKeys ↔ ahas k t.data = true

def abs (t : Table) : Bytes → Option Item := fun k => alookup k t.data

theorem TableInv.mem_iff_stored {t : Table} (h : TableInv t) {k : Bytes} :
    k ∈ t.sortedKeys ↔ ∃ item, alookup k t.data = some item := (h.memIff k).trans Option.isSome_iff_exists

theorem tableInv_new (t : Table) (hk : t.sortedKeys = []) (hd : t.data = []) : TableInv t :=
  ⟨by rw [hk]; trivial, by rw [hk]; exact List.nodup_nil, by rw [hd]; exact List.nodup_nil, by intro k; simp [hk, hd, ahas]⟩

theorem tableInv_of_same {t t' : Table} (h : TableInv t) (hk : t'.sortedKeys = t.sortedKeys) (hd : t'.data = t.data) : TableInv t' :=
  ⟨hk ▸ h.sorted, hk ▸ h.nodup, hd ▸ h.dataNodup, hk ▸ hd ▸ h.memIff⟩

theorem tableInv_setItem {t : Table} (h : TableInv t) (key : Bytes) (item : Item) : TableInv (t.setItem key item) := by
  have hd := nodup_keysOf_ainsert key item h.dataNodup
  have hm (k : Bytes) : ahas k (ainsert key item t.data) = true ↔ k = key ∨ k ∈ t.sortedKeys := by
    rw [ahas_iff_mem_keys, mem_keysOf_ainsert, ← ahas_iff_mem_keys, h.memIff]
  unfold Table.setItem
  split
  · -- the key is stored already: the key list stays as it is
    next hk => exact ⟨h.sorted, h.nodup, hd, fun k => by rw [hm]; exact ⟨.inr, (·.elim (· ▸ (h.memIff key).2 hk) id)⟩⟩
  · -- a new key is sorted into the key list
    next hk =>
    have hnot : key ∉ t.sortedKeys := fun hin => hk ((h.memIff key).1 hin)
    exact ⟨sortedBy_sortBytes _,
      nodup_sortBytes ((List.perm_append_singleton key _).nodup_iff.2 (List.nodup_cons.2 ⟨hnot, h.nodup⟩)), hd,
      fun k => by rw [mem_sortBytes, hm, List.mem_append, List.mem_singleton, or_comm]⟩

theorem indexSet_data (t : Table) (key : Bytes) (item : Item) :
    (t.indexSet key item).data = t.data ∧ (t.indexSet key item).sortedKeys = t.sortedKeys := ⟨rfl, rfl⟩

/-- under the invariant the `sort.SearchStrings` of `Table.Delete` finds a stored key, so the early return at
    `pos == len(t.SortedKeys)` (the item goes, its key and its index references stay) is not taken -/
theorem erase_of_stored {t : Table} (h : TableInv t) {key : Bytes} {item : Item} (hl : alookup key t.data = some item) :
    ∃ hpos : searchStrings t.sortedKeys key < t.sortedKeys.length, t.sortedKeys[searchStrings t.sortedKeys key] = key ∧
      t.erase key = ({ t with data := aerase key t.data,
                              sortedKeys := removeAt t.sortedKeys (searchStrings t.sortedKeys key) }).mapIndexes (·.remove key) := by
  obtain ⟨hpos, hat⟩ := searchStrings_of_mem h.sorted key (h.mem_iff_stored.2 ⟨item, hl⟩)
  have hne : (searchStrings t.sortedKeys key == t.sortedKeys.length) = false := beq_false_of_ne (Nat.ne_of_lt hpos)
  exact ⟨hpos, hat, by simp only [Table.erase, hl, hne, Bool.false_eq_true, if_false]⟩

theorem tableInv_erase {t : Table} (h : TableInv t) (key : Bytes) : TableInv (t.erase key) := by
  cases hl : alookup key t.data with
  | none => rw [Table.erase_of_absent hl]; exact h
  | some it =>
    obtain ⟨hpos, hat, he⟩ := erase_of_stored h hl
    rw [he]
    refine ⟨h.sorted.sublist Bytes.le_trans' (removeAt_sublist _ _), (removeAt_sublist _ _).nodup h.nodup,
      nodup_keysOf_aerase h.dataNodup, ?_⟩
    intro k
    show k ∈ removeAt t.sortedKeys (searchStrings t.sortedKeys key) ↔ ahas k (aerase key t.data) = true
    rw [mem_removeAt h.nodup hpos, hat, ahas_iff_mem_keys, mem_keysOf_aerase, h.memIff k, ahas_iff_mem_keys]

theorem tableInv_store {t : Table} (h : TableInv t) (key : Bytes) (item : Item) : TableInv (t.store key item) :=
  have ⟨hd, hk⟩ := indexSet_data (t.setItem key item) key item
  tableInv_of_same (tableInv_setItem h key item) hk hd

theorem abs_store (t : Table) (key : Bytes) (item : Item) (k : Bytes) :
    abs (t.store key item) k = if k = key then some item else abs t k := by
  rw [abs, Table.store_data]; exact alookup_ainsert key k item t.data

theorem abs_erase (t : Table) (key k : Bytes) : abs (t.erase key) k = if k = key then none else abs t k := by
  rw [abs, Table.erase_data]; exact alookup_aerase key k t.data

theorem getItem_eq_abs (t : Table) (key : Bytes) : t.getItem key = (abs t key).getD [] := rfl

/-- **C01**, `Table.Put`: a successful put keeps the invariant, stores the item under the key string of its key
    attributes and leaves every other key as it was -/
theorem put_ok {t t' : Table} {m : Matcher} {item : Item} {cond : Option Bytes} (h : TableInv t)
    (hput : t.put m item cond = .ok t') :
    ∃ key, Key.getKey t.schema t.attrs item = .ok key ∧ TableInv t' ∧ abs t' key = some item ∧
      ∀ k, k ≠ key → abs t' k = abs t k := by
  obtain ⟨key, hk, _, _, rfl⟩ := Table.put_ok_iff.1 hput
  exact ⟨key, hk, tableInv_store h key item, of_update (abs_store t key item)⟩

/-- `C05.put_refused`: the refusal carries the item stored under the request's own key (an `.error` holds no table) -/
theorem put_condition_local {t : Table} {m : Matcher} {item : Item} {c : Bytes} {key : Bytes}
    (hk : Key.getKey t.schema t.attrs item = .ok key) (hne : c ≠ [])
    (hfalse : m .cond c (t.getItem key) = .ok false) :
    t.put m item (some c) = .error (.conditionFailed (t.getItem key)) :=
  C05.put_refused hne hk hfalse

theorem delete_ok {t t' : Table} {m : Matcher} {keyAttrs : Item} {cond : Option Bytes} {old : Option Item}
    (h : TableInv t) (hdel : t.delete m keyAttrs cond = .ok (t', old)) :
    ∃ key, Key.getKey t.schema t.attrs keyAttrs = .ok key ∧ TableInv t' ∧ old = abs t key ∧ abs t' key = none ∧
      ∀ k, k ≠ key → abs t' k = abs t k := by
  obtain ⟨key, hk, _, rfl, rfl⟩ := Table.delete_ok_iff.1 hdel
  exact ⟨key, hk, tableInv_erase h key, rfl, of_update (abs_erase t key)⟩

theorem update_ok {t t' : Table} {m : Matcher} {upd : Table.Updater} {keyAttrs : Item} {cond : Option Bytes} {res : Item}
    (h : TableInv t) (hupd : t.update m upd keyAttrs cond = .ok (t', res)) :
    ∃ key, Key.getKey t.schema t.attrs keyAttrs = .ok key ∧ TableInv t' ∧
      upd ((abs t key).getD keyAttrs) = .ok res ∧ abs t' key = some res ∧ ∀ k, k ≠ key → abs t' k = abs t k := by
  obtain ⟨key, hk, _, hu, _, rfl⟩ := Table.update_ok_iff.1 hupd
  exact ⟨key, hk, tableInv_store h key res, hu, of_update (abs_store t key res)⟩

/-- `getD` at an absent key: the base item in the third conjunct of `update_ok` is then the request's key attributes
    (the statement itself mentions neither `Table.update` nor an updater) -/
theorem update_absent_starts_from_key {t : Table} {key : Bytes} {keyAttrs : Item}
    (habs : abs t key = none) : (abs t key).getD keyAttrs = keyAttrs := by simp [habs]

/-- non-vacuity: `TableInv` of a table after two `setItem` -/
example : TableInv (({ name := [116], schema := { hash := [104] }, attrs := [([104], [83])] } : Table).setItem [97] [([104], .s [97])]
    |>.setItem [98] [([104], .s [98])]) :=
  tableInv_setItem (tableInv_setItem (tableInv_new _ rfl rfl) _ _) _ _

end Minidyn.Props.C01

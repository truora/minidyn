/-
  C02 — Query and Scan return exactly the matching items, in sort-key order.

  Stated for `Table.searchData` with any matcher that does not panic on the stored items (at the client only
  `query_count`), for reads of the table itself without Limit and ExclusiveStartKey, under `TableInv`, which every
  reachable table satisfies (`Reach.reachable_inv`).  The main statement, `search_exact`, is proved in
  `Props/C04Paging.lean` as the page without Limit.  Reads with Limit and resumed reads: `Props/C04Paging.lean`.
  Reads through a secondary index: `Props/C04Index.lean` (`index_search_exact`, `page_spec_ix`), under the index
  invariants of `Props/C03.lean`.
-/
import Minidyn.Lemmas.Client
import Minidyn.Props.C01
namespace Minidyn.Props.C02
open Minidyn.Table Minidyn.Props.C01

def verdict (m : Matcher) (q : Query) (item : Item) : Bool :=
  match matchKey m q item with
  | .ok (_, b) => b
  | .error _ => false

/-- the matcher does not panic on this item -/
def Answers (m : Matcher) (q : Query) (item : Item) : Prop := ∃ ty b, matchKey m q item = .ok (ty, b)

def pick (t : Table) (m : Matcher) (q : Query) (ks : List Bytes) : List Item :=
  ks.filterMap fun k =>
    let item := (alookup k t.data).getD []
    if verdict m q item then some item else none

/-- a read walks `sortedKeys`: every stored key is visited exactly once -/
theorem search_each_once (t : Table) (hinv : TableInv t) :
    t.sortedKeys.Nodup ∧ ∀ k, k ∈ t.sortedKeys ↔ (alookup k t.data).isSome = true :=
  ⟨hinv.nodup, fun k => hinv.memIff k⟩

/-- … in the bytewise order of the key strings -/
theorem search_order (t : Table) (hinv : TableInv t) : SortedBy Bytes.le t.sortedKeys := hinv.sorted

/-- none missing, none extra: an item is returned iff it is stored and passes the key condition and the filter -/
theorem search_sound_complete (t : Table) (m : Matcher) (q : Query) (hinv : TableInv t) (item : Item) (fwd : Bool) :
    item ∈ pick t m q (if fwd then t.sortedKeys else t.sortedKeys.reverse) ↔
      ∃ k, alookup k t.data = some item ∧ verdict m q item = true := by
  have hmem : ∀ k, k ∈ (if fwd then t.sortedKeys else t.sortedKeys.reverse) ↔ k ∈ t.sortedKeys := by
    intro k; cases fwd <;> simp
  simp only [pick, List.mem_filterMap]
  constructor
  · rintro ⟨k, hk, h⟩
    obtain ⟨it, hi⟩ := hinv.mem_iff_stored.1 ((hmem k).1 hk)
    simp only [hi, Option.getD_some] at h
    split at h
    · cases h; exact ⟨k, hi, by assumption⟩
    · cases h
  · rintro ⟨k, hk, hv⟩
    refine ⟨k, (hmem k).2 (hinv.mem_iff_stored.2 ⟨item, hk⟩), ?_⟩
    simp [hk, hv]

/-- Count equals the number of items returned -/
theorem query_count (c : Client) (table : Bytes) (q : Query) (ex : Exprs) (items : List Item) (n : Nat) (lek : Item)
    (h : (Client.query c table q ex).2 = .search items n lek) : n = items.length := by
  unfold Client.query at h
  -- the read succeeded, or its error is no search output
  rcases Client.searchOnce_cases c table q ex with ⟨_, _, _, _, _, _, he⟩ | ⟨_, he⟩ | ⟨_, he⟩ <;>
    rw [show Client.searchOnce c table q ex = _ from he c.sdk] at h <;> cases h
  rfl

end Minidyn.Props.C02

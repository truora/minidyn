/-
  C03 — secondary indexes mirror the base table.

  `IndexInv`: the sorted index keys are sorted and, as a multiset, the index keys the references hold; one reference
  per primary key.  It holds for a new index and is kept by `Index.set` (PutItem, UpdateItem, backfill) and
  `Index.remove` (DeleteItem) whatever the previous entry of the primary key was: none, another key, the same key.
  `set_ok` / `remove_lookup`: afterwards the index holds the index key of the written item under its primary key
  (nothing if the item lacks the index key attributes: sparse) and every other primary key is untouched.  Hence
  `IndexAgree` — the references are a function of the base table's items alone — is kept by a write and by a delete
  (`agree_after_set`, `agree_after_remove`); for every history of the client: `Reach.reachable_inv3_all`.
-/
import Minidyn.Model.Table
import Minidyn.Lemmas.Assoc
import Minidyn.Lemmas.Search
import Minidyn.Lemmas.Table
namespace Minidyn.Props.C03

structure IndexInv (ix : Index) : Prop where
  sorted : SortedBy Bytes.le ix.sortedKeys
  perm : ix.sortedKeys.Perm (ix.refs.map (·.2))
  refsNodup : (keysOf ix.refs).Nodup

theorem indexInv_new (ks : KeySchema) (ty : IndexType) : IndexInv { schema := ks, typ := ty } :=
  ⟨trivial, List.Perm.refl _, List.nodup_nil⟩

theorem remove_lookup (ix : Index) (key k : Bytes) :
    alookup k (ix.remove key).refs = if k = key then none else alookup k ix.refs := by
  rw [Index.remove_refs, alookup_aerase]

theorem indexInv_remove {ix : Index} (h : IndexInv ix) (key : Bytes) : IndexInv (ix.remove key) := by
  unfold Index.remove
  cases hl : alookup key ix.refs with
  | none => exact h
  | some ik =>
    have hmem : ik ∈ ix.sortedKeys := h.perm.mem_iff.mpr (List.mem_map_of_mem (f := (·.2)) (mem_of_alookup hl))
    obtain ⟨hpos, hat⟩ := searchStrings_of_mem h.sorted ik hmem
    have hcond : (searchStrings ix.sortedKeys ik == ix.sortedKeys.length ||
        ix.sortedKeys[searchStrings ix.sortedKeys ik]? != some ik) = false := by
      simp [Nat.ne_of_lt hpos, List.getElem?_eq_getElem hpos, hat]
    simp only [hcond, Bool.false_eq_true, if_false]
    refine ⟨h.sorted.sublist Bytes.le_trans' (removeAt_sublist _ _), ?_, nodup_keysOf_aerase h.refsNodup⟩
    -- both sides are what is left when `ik` is taken out of two lists that are permutations of one another
    exact ((hat ▸ perm_cons_removeAt ix.sortedKeys _ hpos).trans
      (h.perm.trans ((perm_cons_aerase h.refsNodup hl).map Prod.snd))).cons_inv

theorem indexInv_insert {ix : Index} (h : IndexInv ix) {key : Bytes} (hnot : ahas key ix.refs = false) (ik : Bytes) :
    IndexInv { ix with refs := ainsert key ik ix.refs, sortedKeys := sortBytes (ix.sortedKeys ++ [ik]) } := by
  refine ⟨sortedBy_sortBytes _, ?_, nodup_keysOf_ainsert key ik h.refsNodup⟩
  show (sortBytes (ix.sortedKeys ++ [ik])).Perm ((ainsert key ik ix.refs).map (·.2))
  rw [ainsert_of_not_has ik hnot, List.map_append]
  exact (sortBy_perm Bytes.le _).trans (h.perm.append_right _)

theorem set_ok {ix ix' : Index} {attrs : List (Bytes × Bytes)} {key : Bytes} {item : Item}
    (h : IndexInv ix) (hs : ix.set attrs key item = .ok ix') :
    ∃ ik, Key.getKey ix.schema attrs item = .ok ik ∧ IndexInv ix' ∧
      (∀ k, alookup k ix'.refs = if k = key then (if ik.isEmpty then none else some ik) else alookup k ix.refs) := by
  unfold Index.set at hs
  split at hs
  · cases hs
  · next ik hk =>
    refine ⟨ik, hk, ?_⟩
    have hr := indexInv_remove h key
    split at hs <;> cases hs
    · next he => exact ⟨hr, fun k => by rw [remove_lookup, he]; rfl⟩
    · next he =>
      refine ⟨indexInv_insert hr (by rw [ahas, remove_lookup, if_pos rfl]; rfl) ik, fun k => ?_⟩
      simp only [alookup_ainsert, remove_lookup, Bool.eq_false_iff.2 he, Bool.false_eq_true, if_false]
      split <;> rfl

theorem indexInv_setOrKeep {ix : Index} (h : IndexInv ix) (attrs : List (Bytes × Bytes)) (key : Bytes) (item : Item) :
    IndexInv (ix.setOrKeep attrs key item) := by
  rcases Index.setOrKeep_cases ix attrs key item with ⟨_, _, he⟩ | hs
  · rw [he]; exact h
  · obtain ⟨_, _, h', _⟩ := set_ok h hs; exact h'

/-- what an index must hold for a primary key, as a function of the base table alone -/
def expectedRef (t : Table) (ix : Index) (pk : Bytes) : Option Bytes :=
  match alookup pk t.data with
  | none => none
  | some item =>
    match Key.getKey ix.schema t.attrs item with
    | .ok ik => if ik.isEmpty then none else some ik
    | .error _ => none

theorem expectedRef_congr {t t' : Table} {ix ix' : Index} {pk : Bytes} (hd : alookup pk t'.data = alookup pk t.data)
    (hs : ix'.schema = ix.schema) (ha : ∀ item, Key.getKey ix.schema t'.attrs item = Key.getKey ix.schema t.attrs item) :
    expectedRef t' ix' pk = expectedRef t ix pk := by
  unfold expectedRef; rw [hd, hs]; simp only [ha]

theorem expectedRef_absent {t : Table} {pk : Bytes} (ix : Index) (h : alookup pk t.data = none) :
    expectedRef t ix pk = none := by
  simp only [expectedRef, h]

theorem expectedRef_stored {t : Table} {pk : Bytes} {item : Item} (ix : Index) (h : alookup pk t.data = some item) :
    expectedRef t ix pk = match Key.getKey ix.schema t.attrs item with
      | .ok ik => if ik.isEmpty then none else some ik
      | .error _ => none := by
  simp only [expectedRef, h]

theorem expectedRef_eq_some {t : Table} {ix : Index} {pk ik : Bytes} :
    expectedRef t ix pk = some ik ↔
      ∃ item, alookup pk t.data = some item ∧ Key.getKey ix.schema t.attrs item = .ok ik ∧ ik.isEmpty = false := by
  unfold expectedRef
  constructor
  · intro h
    split at h
    · cases h
    · next item hd =>
      split at h
      · next ik' hk => split at h <;> cases h; exact ⟨item, hd, hk, Bool.eq_false_iff.2 ‹_›⟩
      · cases h
  · rintro ⟨item, hd, hk, he⟩; simp only [hd, hk, he, Bool.false_eq_true, if_false]
/-- the index holds, for every primary key, the index key of the stored item (sparse) -/
def IndexAgree (t : Table) (ix : Index) : Prop := ∀ pk, alookup pk ix.refs = expectedRef t ix pk

theorem agree_congr {t t' : Table} {ix : Index} (h : IndexAgree t ix) (hd : t'.data = t.data) (ha : t'.attrs = t.attrs) :
    IndexAgree t' ix := fun pk => (h pk).trans (expectedRef_congr (hd ▸ rfl) rfl fun _ => ha ▸ rfl).symm

theorem agree_after_set {t : Table} {ix ix' : Index} {key : Bytes} {item : Item}
    (hi : IndexInv ix) (ha : IndexAgree t ix) (hs : ix.set t.attrs key item = .ok ix') (hsch : ix'.schema = ix.schema) :
    IndexAgree { t with data := ainsert key item t.data } ix' := by
  obtain ⟨ik, hk, _, hl⟩ := set_ok hi hs
  intro pk
  by_cases h : pk = key
  · rw [hl pk, if_pos h, h, expectedRef_stored ix' (alookup_ainsert_self ..), hsch, hk]
  · rw [hl pk, if_neg h, ha pk]; exact .symm (expectedRef_congr (alookup_ainsert_ne _ _ h) hsch fun _ => rfl)

theorem agree_after_remove {t : Table} {ix : Index} {key : Bytes} (ha : IndexAgree t ix) :
    IndexAgree { t with data := aerase key t.data } (ix.remove key) := by
  intro pk
  by_cases h : pk = key
  · rw [remove_lookup, if_pos h, h, expectedRef_absent _ (alookup_aerase_self ..)]
  · rw [remove_lookup, if_neg h, ha pk]
    exact .symm (expectedRef_congr (alookup_aerase_ne _ h) (Index.remove_schema ix key) fun _ => rfl)

/-- the item count DescribeTable reports for an index is the number of references -/
theorem count_eq_refs {ix : Index} (h : IndexInv ix) : ix.sortedKeys.length = ix.refs.length := by
  simpa using h.perm.length_eq

/-- non-vacuity, on the case the library once got wrong (the entry of an item whose index key changed was kept):
    put h=1 g=x; put h=2 g=y; put h=1 g=z leaves the sorted keys [y, z] -/
example :
    let ix0 : Index := { schema := { hash := [103], secondary := true }, typ := .global }
    let attrs : List (Bytes × Bytes) := [([103], [83])]
    let r := do
      let a ← ix0.set attrs [49] [([103], .s [120])]
      let b ← a.set attrs [50] [([103], .s [121])]
      b.set attrs [49] [([103], .s [122])]
    (r.toOption.map fun ix => (ix.sortedKeys, ix.refs)) = some ([[121], [122]], [([50], [121]), ([49], [122])]) := by
  decide +kernel

end Minidyn.Props.C03

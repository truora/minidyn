/-
  C02 / C03 — reading through a secondary index.

  `aligned`: for an index that satisfies `IndexInv`, the sorted key list a read walks and the list of references it
  consumes alongside (sorted by index key, then primary key) agree position by position, in both directions: two sorted
  permutations of one multiset are equal (`sorted_perm_eq`).  `C03.index_search_exact` (Props/C04Index.lean) rests on
  it: `Table.searchData` on the index, without Limit and start key, returns the items of the primary keys the index
  references, filtered by the verdict of the matcher, in (index key, primary key) order.  With `IndexAgree` those
  primary keys are exactly the ones whose stored item has the complete, non-empty index key (`referenced_iff`).
-/
import Minidyn.Props.C03
namespace Minidyn.Props.C04

/-- comparison of two references `(primary key, index key)`: index key first -/
def lexCmp (a b : Bytes × Bytes) : Ordering :=
  match Bytes.cmp a.2 b.2 with
  | .eq => Bytes.cmp a.1 b.1
  | c => c

theorem lexCmp_eq_then (a b : Bytes × Bytes) : lexCmp a b = (Bytes.cmp a.2 b.2).then (Bytes.cmp a.1 b.1) := by
  unfold lexCmp; cases Bytes.cmp a.2 b.2 <;> rfl

theorem lexCmp_eq_iff {a b : Bytes × Bytes} : lexCmp a b = .eq ↔ a = b := by
  rw [lexCmp_eq_then, Ordering.then_eq_eq, Bytes.cmp_eq_iff, Bytes.cmp_eq_iff]
  exact ⟨fun ⟨h2, h1⟩ => Prod.ext h1 h2, fun h => h ▸ ⟨rfl, rfl⟩⟩

theorem lexCmp_refl (a : Bytes × Bytes) : lexCmp a a = .eq := lexCmp_eq_iff.2 rfl

theorem lexCmp_lt_gt {a b : Bytes × Bytes} : lexCmp a b = .lt ↔ lexCmp b a = .gt := by
  rw [lexCmp_eq_then, lexCmp_eq_then, Ordering.then_eq_lt, Ordering.then_eq_gt, Bytes.cmp_lt_gt, Bytes.cmp_lt_gt (a := a.1),
    Bytes.cmp_eq_iff, Bytes.cmp_eq_iff, eq_comm (a := a.2) (b := b.2)]

theorem lexCmp_lt_iff {a b : Bytes × Bytes} : lexCmp a b = .lt ↔ a.2 < b.2 ∨ (a.2 = b.2 ∧ a.1 < b.1) := by
  rw [lexCmp_eq_then, Ordering.then_eq_lt, (Bytes.cmp_spec a.2 b.2).1, (Bytes.cmp_spec a.2 b.2).2.1, (Bytes.cmp_spec a.1 b.1).1]

theorem lexCmp_trans_lt {a b c : Bytes × Bytes} (h1 : lexCmp a b = .lt) (h2 : lexCmp b c = .lt) : lexCmp a c = .lt := by
  rw [lexCmp_lt_iff] at *
  rcases h1 with h | ⟨e, h⟩ <;> rcases h2 with h' | ⟨e', h'⟩
  · exact .inl (List.lt_trans h h')
  · exact .inl (e' ▸ h)
  · exact .inl (e ▸ h')
  · exact .inr ⟨e.trans e', List.lt_trans h h'⟩
end Minidyn.Props.C04
namespace Minidyn.Props.C03
open Minidyn.Props.C04

/-- the order `Index.sortedRefs` sorts by: `Index.lessRef` (Go `lessKey`) made reflexive -/
def refLe (a b : Bytes × Bytes) : Bool := Index.lessRef a b || a == b

theorem refLe_iff (a b : Bytes × Bytes) : refLe a b = true ↔ lexCmp a b = .lt ∨ a = b := by
  have : Index.lessRef a b = (lexCmp a b == .lt) := by
    unfold Index.lessRef lexCmp Bytes.lt; cases Bytes.cmp a.2 b.2 <;> rfl
  rw [refLe, this, Bool.or_eq_true, beq_iff_eq, beq_iff_eq]

theorem refLe_total (a b : Bytes × Bytes) : refLe a b = true ∨ refLe b a = true := by
  rw [refLe_iff, refLe_iff]
  cases h : lexCmp a b with
  | lt => exact .inl (.inl rfl)
  | eq => exact .inl (.inr (lexCmp_eq_iff.1 h))
  | gt => exact .inr (.inl (lexCmp_lt_gt.2 h))

theorem refLe_trans (a b c : Bytes × Bytes) (h1 : refLe a b = true) (h2 : refLe b c = true) : refLe a c = true := by
  rw [refLe_iff] at *
  rcases h1 with h1 | rfl
  · rcases h2 with h2 | rfl
    · exact .inl (lexCmp_trans_lt h1 h2)
    · exact .inl h1
  · exact h2

theorem refLe_lexCmp {a b : Bytes × Bytes} (h : refLe a b = true) (hne : a ≠ b) : lexCmp a b = .lt :=
  ((refLe_iff a b).1 h).resolve_right hne

theorem lessRef_le2 {a b : Bytes × Bytes} (h : refLe a b = true) : Bytes.le a.2 b.2 = true := by
  rcases (refLe_iff a b).1 h with h | rfl
  · rcases lexCmp_lt_iff.1 h with h | ⟨e, _⟩
    · exact Bytes.le_iff.2 (List.le_of_lt h)
    · exact e ▸ Bytes.le_refl _
  · exact Bytes.le_refl _

/-- **the two sorted views of an index agree position by position**: the i-th sorted index key is the
    index key of the i-th reference in (index key, primary key) order -/
theorem sortedKeys_eq_refKeys (ix : Index) (h : IndexInv ix) :
    ix.sortedKeys = (sortBy refLe ix.refs).map (·.2) := by
  refine sorted_perm_eq _ _ h.sorted ?_ (h.perm.trans ((sortBy_perm refLe ix.refs).map (·.2)).symm)
  -- the index keys of the sorted references are in ascending order
  exact (sortedBy_iff_pairwise Bytes.le_trans' _).2 <|
    ((sortedBy_iff_pairwise refLe_trans _).1 (sortedBy_sortBy refLe_total refLe_trans ix.refs)).map _ fun _ _ => lessRef_le2

theorem sortedRefs_eq (ix : Index) (fwd : Bool) :
    ix.sortedRefs fwd = if fwd then sortBy refLe ix.refs else (sortBy refLe ix.refs).reverse := rfl

theorem aligned (ix : Index) (h : IndexInv ix) (fwd : Bool) :
    (if fwd then ix.sortedKeys else ix.sortedKeys.reverse) = (ix.sortedRefs fwd).map (·.2) := by
  rw [sortedRefs_eq, sortedKeys_eq_refKeys ix h]
  cases fwd <;> simp [List.map_reverse]


/-- **C03**: with `IndexAgree`, the primary keys an index references are exactly those whose stored item has the
    complete, non-empty index key ("the base-table items that currently possess all of that index's key attributes") -/
theorem referenced_iff (t : Table) (ix : Index) (hag : IndexAgree t ix) (pk : Bytes) :
    (alookup pk ix.refs).isSome = true ↔
      ∃ item ik, alookup pk t.data = some item ∧ Key.getKey ix.schema t.attrs item = .ok ik ∧ ik ≠ [] := by
  rw [hag pk, Option.isSome_iff_exists]
  simp only [expectedRef_eq_some, List.isEmpty_eq_false_iff]
  exact exists_comm

theorem length_sortedRefs (ix : Index) (h : IndexInv ix) (fwd : Bool) : (ix.sortedRefs fwd).length = ix.sortedKeys.length := by
  rw [← List.length_map (·.2), ← aligned ix h fwd]; split <;> simp

end Minidyn.Props.C03

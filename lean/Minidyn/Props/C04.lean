/-
  C04 — paginating with any Limit yields the same result as one unpaginated read.

  Here: `page_le_limit`, a page never holds more than Limit items, with no assumption on the table, the index, the
  start key or the matcher.  What a page holds and the concatenation theorem: `Props/C04Paging.lean` for reads of the
  table itself, `Props/C04Index.lean` for reads through an index; both from the loop analysis in `Props/C04Loop.lean`.
-/
import Minidyn.Lemmas.Except
import Minidyn.Props.C04Loop
namespace Minidyn.Props.C04
open Minidyn.Table

/-- `matchKey` never answers with the kind `cond`, the only one `shouldCount` does not count when the item matched:
    every returned item is counted -/
theorem matchKey_ty (m : Matcher) (q : Query) (item : Item) (ty : Option ExprKind) (b : Bool)
    (h : matchKey m q item = .ok (ty, b)) : shouldCount ty true = true := by
  unfold matchKey at h
  extract_lets filterPart at h
  -- the filter leaves the kind alone or answers `filter`
  have hf : ∀ ty0 b0, shouldCount ty0 true = true → filterPart (ty0, b0) = .ok (ty, b) → shouldCount ty true = true := by
    intro ty0 b0 h0 hj
    dsimp only [filterPart] at hj
    split at hj
    · cases hj; exact h0
    · repeat' split at hj
      all_goals cases hj
      all_goals rfl
  -- the key condition answers with no kind or with `key`
  repeat' split at h
  · exact hf _ _ rfl h
  · exact hf _ _ rfl h
  · cases h

/-- the loop invariant: returned items were counted; the count is within the Limit, below it unless the loop stops -/
def Inv (q : Query) (st : SearchState) (stop : Bool) : Prop :=
  st.items.length ≤ st.count ∧ st.count ≤ q.limit ∧ (stop = false → st.count < q.limit)

theorem getPrimaryKey_inv {q : Query} {st : SearchState} (h : Inv q st false) (onIndex : Bool) (k : Bytes) :
    Inv q (getPrimaryKey onIndex st k).2 false := by
  fun_cases getPrimaryKey onIndex st k <;> exact h

theorem prepareSearch_inv {q : Query} {st : SearchState} (h : Inv q st false) (start : SearchStart) (onIndex fwd : Bool) (k pk : Bytes) :
    Inv q (prepareSearch start onIndex fwd st k pk).2 false := by
  fun_cases prepareSearch start onIndex fwd st k pk <;> exact h

/-- the arithmetic of one processed item: at most one more item, counted if there is one (`hl`), and the loop stops
    exactly when the count reaches the Limit -/
theorem inv_step {limit len count len' count' : Nat} {stop : Bool} (hi : len ≤ count) (hc : count < limit)
    (hl : len' + count ≤ len + count') (hn : count' ≤ count + 1) (hs : stop = (limit != 0 && limit == count')) :
    len' ≤ count' ∧ count' ≤ limit ∧ (stop = false → count' < limit) :=
  ⟨by omega, Nat.le_trans hn hc, fun h => lt_limit_of_go hc hn (hs ▸ h)⟩

theorem processItem_inv (t : Table) (m : Matcher) (q : Query) (st st' : SearchState) (pk : Bytes) (stop : Bool)
    (hinv : Inv q st false) (h : processItem t m q st pk = .ok (st', stop)) : Inv q st' stop := by
  obtain ⟨⟨ty, b0⟩, hm, h⟩ := Except.of_bind_ok h
  cases h
  have hty := matchKey_ty m q _ ty b0 hm
  generalize (if ((alookup pk t.data).isSome && !(st.started && b0)) = true then false else true) = matched
  cases matched
  · -- not returned; counted or not
    exact inv_step hinv.1 (hinv.2.2 rfl) (Nat.add_le_add_left (ite_succ_bounds _ _).1 _) (ite_succ_bounds _ _).2 rfl
  · -- returned, hence counted
    simp only [hty, if_true]
    exact inv_step hinv.1 (hinv.2.2 rfl) (Nat.le_of_eq (Nat.add_right_comm ..)) (Nat.le_refl _) rfl

theorem searchStep_inv (t : Table) (m : Matcher) (q : Query) (onIndex : Bool) (start : SearchStart)
    (st st' : SearchState) (k : Bytes) (stop : Bool) (hinv : Inv q st false)
    (h : searchStep t m q onIndex start st k = .ok (st', stop)) : Inv q st' stop := by
  unfold searchStep at h
  have hg := getPrimaryKey_inv hinv onIndex k
  split at h
  · next st1 heq => rw [heq] at hg; cases h; exact hg
  · next pk st1 heq =>
    rw [heq] at hg
    have hp := prepareSearch_inv hg start onIndex q.forward k pk
    split at h
    · next st2 heq2 => rw [heq2] at hp; cases h; exact hp
    · next st2 heq2 => rw [heq2] at hp; exact processItem_inv t m q st2 st' pk stop hp h

theorem searchLoop_inv (t : Table) (m : Matcher) (q : Query) (onIndex : Bool) (start : SearchStart) :
    ∀ (ks : List Bytes) (st st' : SearchState), Inv q st false → searchLoop t m q onIndex start st ks = .ok st' →
    st'.items.length ≤ st'.count ∧ st'.count ≤ q.limit
  | [], st, st', hinv, h => by cases h; exact ⟨hinv.1, hinv.2.1⟩
  | k :: rest, st, st', hinv, h => by
    obtain ⟨⟨st1, stop⟩, hs, h⟩ := Except.of_bind_ok h
    have h1 := searchStep_inv t m q onIndex start st st1 k stop hinv hs
    cases stop with
    | true => cases h; exact ⟨h1.1, h1.2.1⟩
    | false => exact searchLoop_inv t m q onIndex start rest st1 st' h1 h

/-- **C04, page size**: with a positive Limit a page never holds more than Limit items —
    for the table and for every index, any start key, either direction -/
theorem page_le_limit (t : Table) (m : Matcher) (q : Query) (r : SearchResult) (hl : q.limit ≠ 0)
    (h : t.searchData m q = .ok r) : r.items.length ≤ q.limit := by
  obtain ⟨st, hst, h⟩ := Except.of_bind_ok h
  cases h
  have := searchLoop_inv t m q _ _ _ _ st ⟨Nat.zero_le _, Nat.zero_le _, fun _ => Nat.pos_of_ne_zero hl⟩ hst
  exact Nat.le_trans (Nat.le_of_eq List.length_reverse) (Nat.le_trans this.1 this.2)

end Minidyn.Props.C04

/-
  C04 — pagination through a secondary index.

  The read order of an index is the order of its references by (index key, primary key) (`lexCmp`, `aftRef`).
  `page_spec_ix` says what one page of a Query or Scan on an index is.  `paginate_complete_ix`: passing each
  LastEvaluatedKey (table key completed with the index key: `mergedKey`) back as ExclusiveStartKey returns, page after
  page, the matching items of the references after the start, once each, in index order, and ends.  Hypotheses:
  `IndexInv` and `IndexAgree` (both hold in every reachable state: `Props.Reach`), `Keyed`, a matcher that answers, and
  the two of `page_spec_ix` on the first ExclusiveStartKey.  Every LastEvaluatedKey satisfies these two; they are
  needed: a start key that names a stored item but carries another index key passes `Client.startKeyOk` and breaks
  the conclusion.
-/
import Minidyn.Lemmas.Chain
import Minidyn.Lemmas.Key
import Minidyn.Props.C03Read
import Minidyn.Props.C04Paging
namespace Minidyn.Props.C04
open Minidyn.Table Minidyn.Props.C02 Minidyn.Props.C03

def aftRef (fwd : Bool) (a b : Bytes × Bytes) : Bool := if fwd then lexCmp a b == .gt else lexCmp a b == .lt

theorem aftRef_strict (fwd : Bool) : Chain.StrictOrd (aftRef fwd) :=
  Chain.StrictOrd.ofCmp lexCmp_refl lexCmp_lt_gt lexCmp_trans_lt fwd

theorem mem_sortedRefs (ix : Index) (fwd : Bool) (r : Bytes × Bytes) : r ∈ ix.sortedRefs fwd ↔ r ∈ ix.refs := by
  rw [sortedRefs_eq]
  have hp := (sortBy_perm refLe ix.refs)
  cases fwd
  · simp only [Bool.false_eq_true, if_false, List.mem_reverse]; exact hp.mem_iff
  · simp only [if_true]; exact hp.mem_iff

theorem sortedRefs_chain (ix : Index) (hinv : IndexInv ix) (fwd : Bool) : Chain.IsChain (aftRef fwd) (ix.sortedRefs fwd) :=
  sortedRefs_eq ix fwd ▸ Chain.of_sorted_cmp lexCmp_lt_gt refLe_trans (fun _ _ => refLe_lexCmp)
    (sortedBy_sortBy refLe_total refLe_trans ix.refs)
    ((sortBy_perm refLe ix.refs).nodup_iff.mpr (hinv.refsNodup.of_map _ fun _ _ hne e => hne (congrArg _ e))) fwd

structure PageOutIx (t : Table) (m : Matcher) (q : Query) (st st' : SearchState) (rs : List (Bytes × Bytes)) : Prop where
  items : st'.items = (pick t m q (cut t m q st.count (rs.map (·.1))).1).reverse ++ st.items
  last : st'.last = lastItem t (cut t m q st.count (rs.map (·.1))).1 st.last
  scanned : st'.scanned = st.scanned + (cut t m q st.count (rs.map (·.1))).1.length
  stopped : (cut t m q st.count (rs.map (·.1))).2 = true → st'.count = q.limit ∧ q.limit ≠ 0
  complete : (cut t m q st.count (rs.map (·.1))).2 = false → (q.limit ≠ 0 → st'.count < q.limit)

theorem isAfter_ix (start : SearchStart) (ik pk : Bytes) (fwd : Bool) (hne : start.indexKey.isEmpty = false) :
    isAfter start true ik pk fwd = aftRef fwd (pk, ik) (start.key, start.indexKey) := by
  simp only [isAfter, Bool.true_and, hne, Bool.false_eq_true, if_false, aftRef, lexCmp]
  cases Bytes.cmp ik start.indexKey <;> rfl

def startIx (t : Table) (ix : Index) (q : Query) : SearchStart := parseSearchStart t (some ix) q.startKey

/-- the references positioned after the start of the read, in read order -/
def afterRefs (t : Table) (ix : Index) (q : Query) : List (Bytes × Bytes) :=
  if (startIx t ix q).key.isEmpty then ix.sortedRefs q.forward
  else (ix.sortedRefs q.forward).filter fun r => aftRef q.forward r ((startIx t ix q).key, (startIx t ix q).indexKey)

/-- the LastEvaluatedKey of an index read (`getLastKey`): the table key of the last item completed with its index key -/
def mergedKey (t : Table) (ix : Index) (last : Item) : Item :=
  (Key.keyItem ix.schema last).foldl (fun acc (p : Bytes × AV) => ainsert p.1 p.2 acc) (Key.keyItem t.schema last)

def lekOfIx (t : Table) (m : Matcher) (ix : Index) (q : Query) : Item :=
  let c := cut t m q 0 ((afterRefs t ix q).map (·.1))
  if c.2 && !(lastItem t c.1 []).isEmpty then mergedKey t ix (lastItem t c.1 []) else []

/-- **one page of an index read**: the items of the references positioned after the start position — whether or
    not the item named by the start key is still there — in (index key, primary key) order, up to the one that
    brings the count of evaluated items to the Limit; for a start key that, when it has a table key, has an index key
    too (`hstart`) and whose primary key the index does not hold with another index key (`huniq`) -/
theorem page_spec_ix (t : Table) (m : Matcher) (q : Query) (ix : Index)
    (hix : alookup q.index t.indexes = some ix) (hne : q.index.isEmpty = false) (hinv : IndexInv ix)
    (hstored : ∀ r ∈ ix.refs, ∃ item, alookup r.1 t.data = some item ∧ Answers m q item)
    (hstart : (startIx t ix q).key.isEmpty = false → (startIx t ix q).indexKey.isEmpty = false)
    (huniq : (startIx t ix q).key.isEmpty = false → ∀ r ∈ ix.refs, r.1 = (startIx t ix q).key → r.2 = (startIx t ix q).indexKey) :
    ∃ r, t.searchData m q = .ok r ∧ r.items = pick t m q (cut t m q 0 ((afterRefs t ix q).map (·.1))).1 ∧
      r.lastKey = lekOfIx t m ix q := by
  obtain ⟨st', n, hloop, hn, hout⟩ := searchLoop_page (pk := Prod.fst) (ik := Prod.snd) (onIndex := true)
    (aftRef_strict q.forward) ((startIx t ix q).key, (startIx t ix q).indexKey) t m q (startIx t ix q)
    (ix.sortedRefs q.forward) { started := (startIx t ix q).key.isEmpty, refs := ix.sortedRefs q.forward }
    (sortedRefs_chain ix hinv q.forward) (At.ofIndex rfl)
    (fun hs a _ => isAfter_ix _ _ _ _ (hstart hs))
    (fun hs a ha h => Prod.ext h (huniq hs a ((mem_sortedRefs ix _ a).1 ha) h))
    (fun h => Nat.pos_of_ne_zero h) (fun a ha => hstored a ((mem_sortedRefs ix _ a).1 ha))
  rw [← aligned ix hinv q.forward] at hloop
  obtain ⟨h1, h2⟩ := hout.result (len := ix.sortedKeys.length) rfl rfl rfl
    (by rw [List.length_map, ← length_sortedRefs ix hinv q.forward, ← hn]; simp only [Nat.zero_add]; exact Nat.le_refl _)
    (mergedKey t ix)
  refine ⟨⟨st'.items.reverse, lekOfIx t m ix q⟩, ?_, h1, rfl⟩
  simp only [searchData, hne, Bool.false_eq_true, if_false, hix, Option.isSome_some, bind, Except.bind]
  unfold startIx at hloop
  rw [hloop]
  exact congrArg (fun l => Except.ok (SearchResult.mk st'.items.reverse l)) h2

/-- the merged key carries the item's own values for the key attributes of the table and of the index -/
theorem mergedKey_lookup (t : Table) (ix : Index) (last : Item) (f : Bytes)
    (hf : alookup f (Key.keyItem t.schema last) = alookup f last ∨ alookup f (Key.keyItem ix.schema last) = alookup f last) :
    alookup f (mergedKey t ix last) = alookup f last := by
  unfold mergedKey
  rw [alookup_foldl_ainsert f _ _ (Key.keyItem_entry ix.schema last)]
  split
  · rfl
  · rename_i hn
    rcases hf with hf | hf
    · exact hf
    · -- the index's key item has no `f`, so by `hf` the item has none, and neither has the table's key item
      rw [alookup_eq_none_iff.2 hn] at hf
      rw [Key.alookup_keyItem, ← hf]; split <;> rfl

theorem getKey_mergedKey_table (t : Table) (ix : Index) (last : Item) :
    Key.getKey t.schema t.attrs (mergedKey t ix last) = Key.getKey t.schema t.attrs last :=
  Key.getKey_congr _ _ _ _ (mergedKey_lookup t ix last _ (.inl (Key.alookup_keyItem_hash t.schema last)))
    (fun hr => mergedKey_lookup t ix last _ (.inl (Key.alookup_keyItem_range t.schema last hr)))

theorem getKey_mergedKey_index (t : Table) (ix : Index) (last : Item) :
    Key.getKey ix.schema t.attrs (mergedKey t ix last) = Key.getKey ix.schema t.attrs last :=
  Key.getKey_congr _ _ _ _ (mergedKey_lookup t ix last _ (.inr (Key.alookup_keyItem_hash ix.schema last)))
    (fun hr => mergedKey_lookup t ix last _ (.inr (Key.alookup_keyItem_range ix.schema last hr)))

theorem ref_facts (t : Table) (ix : Index) (hinv : IndexInv ix) (hag : IndexAgree t ix) (pk ik : Bytes) (h : (pk, ik) ∈ ix.refs) :
    ∃ item, alookup pk t.data = some item ∧ Key.getKey ix.schema t.attrs item = .ok ik ∧ ik.isEmpty = false :=
  expectedRef_eq_some.1 (hag pk ▸ alookup_of_mem_nodup hinv.refsNodup h)

theorem refs_stored {t : Table} {ix : Index} {m : Matcher} {q : Query} (hinv : IndexInv ix) (hag : IndexAgree t ix)
    (ha : ∀ k item, alookup k t.data = some item → Answers m q item) :
    ∀ r ∈ ix.refs, ∃ item, alookup r.1 t.data = some item ∧ Answers m q item := fun r hr =>
  let ⟨item, hi, _, _⟩ := ref_facts t ix hinv hag r.1 r.2 hr
  ⟨item, hi, ha r.1 item hi⟩

theorem startIx_withStart_nil (t : Table) (ix : Index) (q : Query) : (startIx t ix (withStart q [])).key = [] := by
  simp [startIx, parseSearchStart]

theorem sortedRefs_withStart (ix : Index) (q : Query) (esk : Item) : ix.sortedRefs (withStart q esk).forward = ix.sortedRefs q.forward := rfl

theorem mem_afterRefs {t : Table} {ix : Index} {q : Query} {r : Bytes × Bytes} (h : r ∈ afterRefs t ix q) : r ∈ ix.refs := by
  unfold afterRefs at h
  split at h
  · exact (mem_sortedRefs ix _ r).1 h
  · exact (mem_sortedRefs ix _ r).1 (List.mem_filter.1 h).1

/-- a page that stopped at the reference `(pk, ik)` reports a key that renders to `pk` as a key of the table (by
    `Keyed`) and to `ik` as a key of the index (by `IndexAgree`) -/
theorem lekOfIx_stopped (t : Table) (m : Matcher) (q : Query) (ix : Index) (hkeyed : Keyed t) (hinv : IndexInv ix)
    (hag : IndexAgree t ix) (hstop : (cut t m q 0 ((afterRefs t ix q).map (·.1))).2 = true) {pre : List Bytes}
    {pk ik : Bytes} (hP : (cut t m q 0 ((afterRefs t ix q).map (·.1))).1 = pre ++ [pk]) (hmem : (pk, ik) ∈ afterRefs t ix q) :
    ∃ item, lekOfIx t m ix q = mergedKey t ix item ∧ Key.getKey t.schema t.attrs (mergedKey t ix item) = .ok pk ∧
      Key.getKey ix.schema t.attrs (mergedKey t ix item) = .ok ik ∧ ik.isEmpty = false := by
  obtain ⟨item, hitem, hgik, hikne⟩ := ref_facts t ix hinv hag pk ik (mem_afterRefs hmem)
  have hkey := hkeyed.keyed pk item hitem
  have hne : item ≠ [] := Key.ne_nil_of_getKey hkeyed.primary ((Key.getKey_keyItem ..).symm.trans hkey)
  refine ⟨item, ?_, by rw [getKey_mergedKey_table, ← Key.getKey_keyItem]; exact hkey, by rw [getKey_mergedKey_index]; exact hgik, hikne⟩
  simp [lekOfIx, hstop, hP, lastItem_snoc, itemOf, hitem, hne]

/-- **C04 through an index**, under `Keyed`, `IndexInv`, `IndexAgree`, with a matcher that answers, from a start key
    with the two hypotheses of `page_spec_ix` (every LastEvaluatedKey has them): paginating a Query or Scan on a
    secondary index until no LastEvaluatedKey comes back returns, concatenated, exactly the matching items of the
    references positioned after the start, in index order — nothing lost, duplicated or reordered — within (number of
    such references) + 1 pages, for every Limit and direction -/
theorem paginate_complete_ix (t : Table) (m : Matcher) (q : Query) (ix : Index)
    (hix : alookup q.index t.indexes = some ix) (hne : q.index.isEmpty = false)
    (hkeyed : Keyed t) (hinv : IndexInv ix) (hag : IndexAgree t ix)
    (ha : ∀ k item, alookup k t.data = some item → Answers m q item) :
    ∀ (n : Nat) (esk : Item),
      ((startIx t ix (withStart q esk)).key.isEmpty = false → (startIx t ix (withStart q esk)).indexKey.isEmpty = false) →
      ((startIx t ix (withStart q esk)).key.isEmpty = false → ∀ r ∈ ix.refs, r.1 = (startIx t ix (withStart q esk)).key →
        r.2 = (startIx t ix (withStart q esk)).indexKey) →
      (afterRefs t ix (withStart q esk)).length ≤ n → ∀ fuel, n < fuel →
      paginate t m q fuel esk = .ok (some (pick t m q ((afterRefs t ix (withStart q esk)).map (·.1)))) := by
  intro n esk hs hu hn fuel hf
  refine paginate_of_pages t m q (fun esk => (afterRefs t ix (withStart q esk)).map (·.1))
    (fun esk => ((startIx t ix (withStart q esk)).key.isEmpty = false → (startIx t ix (withStart q esk)).indexKey.isEmpty = false) ∧
      ((startIx t ix (withStart q esk)).key.isEmpty = false → ∀ r ∈ ix.refs, r.1 = (startIx t ix (withStart q esk)).key →
        r.2 = (startIx t ix (withStart q esk)).indexKey))
    ?_ fuel esk ⟨hs, hu⟩ (by rw [List.length_map]; exact Nat.lt_of_le_of_lt hn hf)
  intro esk hv
  obtain ⟨r, hr, hitems, hlek⟩ := page_spec_ix t m (withStart q esk) ix hix hne hinv (refs_stored hinv hag ha) hv.1 hv.2
  rw [cut_startKey] at hitems
  refine ⟨r, hr, hitems, fun hstop => by simp [hlek, lekOfIx, cut_startKey, hstop], fun hstop pre pk rest hP hA => ?_⟩
  -- the reference whose primary key ends the page
  obtain ⟨rpre, rrest', hsplit, -, hrr⟩ := List.map_eq_append_iff.1 hA
  obtain ⟨⟨pk', ik⟩, rrest, rfl, hpk, rfl⟩ := List.map_eq_cons_iff.1 hrr
  cases hpk
  obtain ⟨item, hl, hmk, hmi, hikne⟩ := lekOfIx_stopped t m (withStart q esk) ix hkeyed hinv hag (by rw [cut_startKey]; exact hstop)
    (by rw [cut_startKey]; exact hP) (hsplit ▸ List.mem_append_right _ (List.mem_cons_self ..))
  rw [← hlek] at hl
  have hlne : r.lastKey ≠ [] := hl ▸ Key.ne_nil_of_getKey hkeyed.primary hmk
  have hpke := List.isEmpty_eq_false_iff.2 (C13.key_nonempty _ _ _ _ hkeyed.primary hmk)
  -- the next read starts at the position of that reference
  have hstart : startIx t ix (withStart q r.lastKey) = { key := pk', indexKey := ik } := by
    simp only [startIx, parseSearchStart, withStart_startKey, List.isEmpty_eq_false_iff.2 hlne, Bool.false_eq_true, if_false]
    rw [hl, hmk, hmi]
    simp only [Except.toOption, Option.getD_some, hpke, Bool.false_eq_true, if_false]
  refine ⟨hlne, ⟨fun _ => hstart ▸ hikne, fun _ r' hr' hk => ?_⟩, ?_⟩
  · -- a primary key has one reference
    rw [hstart] at hk ⊢
    have h1 := alookup_of_mem_nodup hinv.refsNodup hr'
    have h2 : alookup pk' ix.refs = some ik :=
      alookup_of_mem_nodup hinv.refsNodup (mem_afterRefs (hsplit ▸ List.mem_append_right _ (List.mem_cons_self ..)))
    rw [show r'.1 = pk' from hk, h2] at h1
    exact (Option.some.inj h1).symm
  · -- the references after it are the rest of this page's list
    show (afterRefs t ix (withStart q r.lastKey)).map (·.1) = rrest.map (·.1)
    unfold afterRefs
    rw [hstart]
    simp only [hpke, Bool.false_eq_true, if_false]
    exact congrArg _ (Chain.filter_after_of_filter (aftRef_strict q.forward) (sortedRefs_chain ix hinv q.forward)
      ((startIx t ix (withStart q esk)).key, (startIx t ix (withStart q esk)).indexKey)
      (startIx t ix (withStart q esk)).key.isEmpty hsplit)

end Minidyn.Props.C04

namespace Minidyn.Props.C03
open Minidyn.Table Minidyn.Props.C02 Minidyn.Props.C04

/-- **C02/C03 through an index**: an unpaginated Query or Scan on a secondary index returns the stored
    items of exactly the primary keys the index references — once each — filtered by the verdict, in
    (index key, primary key) order, reversed when asked -/
theorem index_search_exact (t : Table) (m : Matcher) (q : Query) (ix : Index)
    (hix : alookup q.index t.indexes = some ix) (hne : q.index.isEmpty = false) (hinv : IndexInv ix)
    (hl : q.limit = 0) (hsk : q.startKey = [])
    (hstored : ∀ r ∈ ix.refs, ∃ item, alookup r.1 t.data = some item ∧ Answers m q item) :
    ∃ r, t.searchData m q = .ok r ∧ r.items = pick t m q ((ix.sortedRefs q.forward).map (·.1)) ∧ r.lastKey = [] := by
  have hs : ¬ (startIx t ix q).key.isEmpty = false := by simp [startIx, parseSearchStart, hsk]
  obtain ⟨r, hr, hitems, hlek⟩ := page_spec_ix t m q ix hix hne hinv hstored (fun h => absurd h hs) (fun h => absurd h hs)
  have hA : afterRefs t ix q = ix.sortedRefs q.forward := by simp [afterRefs, hs]
  have hc := cut_limit_zero t m hl 0 ((ix.sortedRefs q.forward).map (·.1))
  exact ⟨r, hr, by rw [hitems, hA, hc], by rw [hlek, lekOfIx, hA, hc]; rfl⟩

end Minidyn.Props.C03

/-
  The search loop (`searchLoop`), analysed once for reads of the table itself and reads through an index.

  The loop walks a list of positions `rs : List α`; position `a` has the primary key `pk a` and the walked key
  `ik a` (table: `α = Bytes`, both the key string; index: `α` the references, `ik` the index key).  Positions not
  after the start only advance `scanned` (`skip_phase`); from the first position after it the loop does what `cut`
  says (`process_phase`, `PageOut`); `searchLoop_page` joins the two when the positions are a chain for the read order.
-/
import Minidyn.Lemmas.Chain
import Minidyn.Props.C02
namespace Minidyn.Props.C04
open Minidyn.Table Minidyn.Props.C02

/-- whether a visited item counts against the Limit -/
def counts (m : Matcher) (q : Query) (item : Item) : Bool :=
  match matchKey m q item with
  | .ok (ty, b) => shouldCount ty b
  | .error _ => false

def itemOf (t : Table) (k : Bytes) : Item := (alookup k t.data).getD []

/-- the keys a page processes out of `ks`, starting with `c` counted items: up to and including the
    one that brings the count to the Limit; the flag says the Limit was reached -/
def cut (t : Table) (m : Matcher) (q : Query) : Nat → List Bytes → List Bytes × Bool
  | _, [] => ([], false)
  | c, k :: ks =>
    let c' := if counts m q (itemOf t k) then c + 1 else c
    if q.limit != 0 && q.limit == c' then ([k], true)
    else ((k :: (cut t m q c' ks).1), (cut t m q c' ks).2)

def lastItem (t : Table) (P : List Bytes) (dflt : Item) : Item :=
  match P.getLast? with
  | some k => itemOf t k
  | none => dflt

structure PageOut (t : Table) (m : Matcher) (q : Query) (st st' : SearchState) (ks : List Bytes) : Prop where
  items : st'.items = (pick t m q (cut t m q st.count ks).1).reverse ++ st.items
  last : st'.last = lastItem t (cut t m q st.count ks).1 st.last
  scanned : st'.scanned = st.scanned + (cut t m q st.count ks).1.length
  stopped : (cut t m q st.count ks).2 = true → st'.count = q.limit ∧ q.limit ≠ 0
  complete : (cut t m q st.count ks).2 = false → (cut t m q st.count ks).1 = ks ∧ (q.limit ≠ 0 → st'.count < q.limit)

theorem cut_stop {t : Table} {m : Matcher} {q : Query} {c : Nat} {k : Bytes} (ks : List Bytes)
    (h : (q.limit != 0 && q.limit == (if counts m q (itemOf t k) then c + 1 else c)) = true) :
    cut t m q c (k :: ks) = ([k], true) := by
  simp only [cut, h, if_true]

theorem cut_go {t : Table} {m : Matcher} {q : Query} {c : Nat} {k : Bytes} (ks : List Bytes)
    (h : (q.limit != 0 && q.limit == (if counts m q (itemOf t k) then c + 1 else c)) = false) :
    cut t m q c (k :: ks) = (k :: (cut t m q (if counts m q (itemOf t k) then c + 1 else c) ks).1,
      (cut t m q (if counts m q (itemOf t k) then c + 1 else c) ks).2) := by
  simp only [cut, h, Bool.false_eq_true, if_false]

theorem pick_cons (t : Table) (m : Matcher) (q : Query) (k : Bytes) (ks : List Bytes) :
    pick t m q (k :: ks) = (if verdict m q (itemOf t k) then [itemOf t k] else []) ++ pick t m q ks := by
  by_cases h : verdict m q ((alookup k t.data).getD []) = true <;> simp [pick, itemOf, h]

theorem pick_append (t : Table) (m : Matcher) (q : Query) (a b : List Bytes) :
    pick t m q (a ++ b) = pick t m q a ++ pick t m q b := by
  simp [pick, List.filterMap_append]

theorem lastItem_cons (t : Table) (k : Bytes) (P : List Bytes) (d : Item) :
    lastItem t (k :: P) d = lastItem t P (itemOf t k) := by
  cases P with
  | nil => rfl
  | cons p ps => simp only [lastItem, List.getLast?_cons_cons, List.getLast?_eq_some_getLast (List.cons_ne_nil p ps)]

theorem lastItem_snoc (t : Table) (pre : List Bytes) (kn : Bytes) (d : Item) : lastItem t (pre ++ [kn]) d = itemOf t kn := by
  simp [lastItem]

theorem cut_limit_zero (t : Table) (m : Matcher) {q : Query} (hl : q.limit = 0) (c : Nat) (ks : List Bytes) :
    cut t m q c ks = (ks, false) := by
  fun_induction cut t m q c ks with
  | case1 => rfl
  | case2 _ _ _ _ h => simp [hl] at h
  | case3 _ _ _ _ _ ih => rw [ih]

theorem cut_length_le (t : Table) (m : Matcher) (q : Query) (ks : List Bytes) (c : Nat) :
    (cut t m q c ks).1.length ≤ ks.length := by
  fun_induction cut t m q c ks with
  | case1 => exact Nat.le_refl _
  | case2 => exact Nat.succ_le_succ (Nat.zero_le _)
  | case3 _ _ _ _ _ ih => exact Nat.succ_le_succ ih

theorem cut_complete (t : Table) (m : Matcher) (q : Query) (ks : List Bytes) (c : Nat) :
    (cut t m q c ks).2 = false → (cut t m q c ks).1 = ks := by
  fun_induction cut t m q c ks with
  | case1 => exact fun _ => rfl
  | case2 => exact nofun
  | case3 _ k _ _ _ ih => exact fun h => congrArg (k :: ·) (ih h)

theorem cut_stopped_last (t : Table) (m : Matcher) (q : Query) (ks : List Bytes) (c : Nat) :
    (cut t m q c ks).2 = true → ∃ pre kn rest, (cut t m q c ks).1 = pre ++ [kn] ∧ ks = pre ++ kn :: rest := by
  fun_induction cut t m q c ks with
  | case1 => exact nofun
  | case2 _ k ks => exact fun _ => ⟨[], k, ks, rfl, rfl⟩
  | case3 _ k _ _ _ ih =>
    intro h
    obtain ⟨pre, kn, rest, h1, h2⟩ := ih h
    exact ⟨k :: pre, kn, rest, congrArg (k :: ·) h1, congrArg (k :: ·) h2⟩

theorem processItem_eq (t : Table) (m : Matcher) (q : Query) (st : SearchState) (k : Bytes) (item : Item)
    (hs : st.started = true) (hk : alookup k t.data = some item) (ha : Answers m q item) :
    processItem t m q st k = .ok ({ st with
        items := if verdict m q item then item :: st.items else st.items,
        scanned := st.scanned + 1,
        count := if counts m q item then st.count + 1 else st.count,
        last := item },
      q.limit != 0 && q.limit == (if counts m q item then st.count + 1 else st.count)) := by
  obtain ⟨ty, b, hb⟩ := ha
  simp only [processItem, hk, Option.getD_some, hb, bind, Except.bind, Option.isSome_some, Bool.true_and, hs, pure,
    Except.pure, verdict, counts]
  cases b <;> simp

theorem prepareSearch_go {start : SearchStart} {onIndex fwd : Bool} {st : SearchState} {k pk : Bytes}
    (h : st.started = true ∨ isAfter start onIndex k pk fwd = true) :
    prepareSearch start onIndex fwd st k pk = (true, { st with started := true }) := by
  unfold prepareSearch
  cases hs : st.started with
  | true => cases st; simp_all
  | false => simp_all

theorem prepareSearch_skip {start : SearchStart} {onIndex fwd : Bool} {st : SearchState} {k pk : Bytes}
    (hs : st.started = false) (h : isAfter start onIndex k pk fwd = false) :
    prepareSearch start onIndex fwd st k pk = (false, { st with started := pk == start.key }) := by
  unfold prepareSearch
  cases hk : pk == start.key <;> cases st <;> simp_all

variable {α : Type} (pk ik : α → Bytes)

/-- the state stands before the positions `rs`: on an index they are the references still to be consumed, on the
    table itself the walked key is the primary key -/
def At (onIndex : Bool) (st : SearchState) (rs : List α) : Prop :=
  if onIndex then st.refs = rs.map (fun a => (pk a, ik a)) else ∀ a ∈ rs, ik a = pk a

/-- the state after `getPrimaryKey`: on an index one reference is consumed -/
def adv (onIndex : Bool) (st : SearchState) : SearchState := { st with refs := if onIndex then st.refs.tail else st.refs }

variable {pk ik}

theorem At.ofTable (st : SearchState) (ks : List Bytes) : At id id false st ks := fun _ _ => rfl

theorem At.ofIndex {st : SearchState} {rs : List (Bytes × Bytes)} (h : st.refs = rs) : At Prod.fst Prod.snd true st rs :=
  h.trans (List.map_id' rs).symm

theorem At.tail {onIndex : Bool} {st st' : SearchState} {a : α} {rs : List α} (h : At pk ik onIndex st (a :: rs))
    (hr : st'.refs = (adv onIndex st).refs) : At pk ik onIndex st' rs := by
  cases onIndex
  · exact fun b hb => h b (List.mem_cons_of_mem _ hb)
  · simp only [At, if_true, List.map_cons] at h ⊢; rw [hr, adv, h]; rfl

theorem getPrimaryKey_at {onIndex : Bool} {st : SearchState} {a : α} {rs : List α} (h : At pk ik onIndex st (a :: rs)) :
    getPrimaryKey onIndex st (ik a) = (some (pk a), adv onIndex st) := by
  cases onIndex
  · exact congrArg (fun k => (some k, st)) (h a (List.mem_cons_self ..))
  · simp only [At, if_true, List.map_cons] at h
    simp only [getPrimaryKey, if_true, h, beq_self_eq_true, adv, List.tail_cons]

theorem searchStep_go (t : Table) (m : Matcher) (q : Query) {onIndex : Bool} (start : SearchStart) {st : SearchState}
    {a : α} {rs : List α} {item : Item} (h : At pk ik onIndex st (a :: rs))
    (hgo : st.started = true ∨ isAfter start onIndex (ik a) (pk a) q.forward = true)
    (hk : alookup (pk a) t.data = some item) (ha : Answers m q item) :
    searchStep t m q onIndex start st (ik a) = .ok ({ adv onIndex st with
        started := true,
        items := if verdict m q item then item :: st.items else st.items,
        scanned := st.scanned + 1,
        count := if counts m q item then st.count + 1 else st.count,
        last := item },
      q.limit != 0 && q.limit == (if counts m q item then st.count + 1 else st.count)) := by
  simp only [searchStep, getPrimaryKey_at h, prepareSearch_go (st := adv onIndex st) hgo]
  exact processItem_eq t m q _ _ item rfl hk ha

/-- a position not after the start is only counted as scanned; the start key itself switches the search on -/
theorem searchStep_skip (t : Table) (m : Matcher) (q : Query) {onIndex : Bool} (start : SearchStart) {st : SearchState}
    {a : α} {rs : List α} (h : At pk ik onIndex st (a :: rs)) (hs : st.started = false)
    (hna : isAfter start onIndex (ik a) (pk a) q.forward = false) :
    searchStep t m q onIndex start st (ik a) =
      .ok ({ adv onIndex st with started := pk a == start.key, scanned := st.scanned + 1 }, false) := by
  simp only [searchStep, getPrimaryKey_at h, prepareSearch_skip (st := adv onIndex st) hs hna]; rfl

theorem searchLoop_cons {t : Table} {m : Matcher} {q : Query} {onIndex : Bool} {start : SearchStart} {st st1 : SearchState}
    {k : Bytes} {stop : Bool} (h : searchStep t m q onIndex start st k = .ok (st1, stop)) (ks : List Bytes) :
    searchLoop t m q onIndex start st (k :: ks) = if stop then .ok st1 else searchLoop t m q onIndex start st1 ks := by
  rw [searchLoop, h]; rfl

theorem ite_succ_bounds (b : Bool) (c : Nat) : c ≤ (if b then c + 1 else c) ∧ (if b then c + 1 else c) ≤ c + 1 := by
  cases b <;> simp

theorem lt_limit_of_go {limit c c' : Nat} (hc : c < limit) (hn : c' ≤ c + 1) (hgo : (limit != 0 && limit == c') = false) :
    c' < limit := by
  refine Nat.lt_of_le_of_ne (Nat.le_trans hn hc) fun e => ?_
  rw [e, beq_self_eq_true, Bool.and_true, bne_eq_false_iff_eq] at hgo
  rw [hgo] at hc; cases hc


/-- positions `lo ++ mid` that do not lie after the start change only `started`, `refs` and `scanned`, if only the last
    of them (`mid`) can be the start key, which switches the search on -/
theorem skip_phase (t : Table) (m : Matcher) (q : Query) {onIndex : Bool} (start : SearchStart) (mid : List α)
    (hmid : mid = [] ∨ ∃ a, mid = [a]) :
    ∀ (lo rest : List α) (st : SearchState), st.started = false → At pk ik onIndex st (lo ++ mid ++ rest) →
    (∀ a ∈ lo ++ mid, isAfter start onIndex (ik a) (pk a) q.forward = false) → (∀ a ∈ lo, pk a ≠ start.key) →
    ∃ st', (∀ ks, searchLoop t m q onIndex start st ((lo ++ mid).map ik ++ ks) = searchLoop t m q onIndex start st' ks) ∧
      At pk ik onIndex st' rest ∧ st'.items = st.items ∧ st'.count = st.count ∧ st'.last = st.last ∧
      st'.scanned = st.scanned + (lo ++ mid).length := by
  intro lo
  induction lo with
  | nil =>
    intro rest st hs hat hna _
    rcases hmid with rfl | ⟨a, rfl⟩
    · exact ⟨st, fun _ => rfl, hat, rfl, rfl, rfl, rfl⟩
    · exact ⟨_, searchLoop_cons (searchStep_skip t m q start hat hs (hna a (List.mem_cons_self ..))), hat.tail rfl,
        rfl, rfl, rfl, rfl⟩
  | cons a lo ih =>
    intro rest st hs hat hna hne
    have hstep := searchStep_skip t m q start hat hs (hna a (List.mem_cons_self ..))
    rw [beq_eq_false_iff_ne.2 (hne a (List.mem_cons_self ..))] at hstep
    obtain ⟨st', h1, h2, hi, hc, hl, hsc⟩ := ih rest { adv onIndex st with started := false, scanned := st.scanned + 1 } rfl
      (hat.tail rfl) (fun b hb => hna b (List.mem_cons_of_mem _ hb)) (fun b hb => hne b (List.mem_cons_of_mem _ hb))
    exact ⟨st', fun ks => (searchLoop_cons hstep _).trans (h1 ks), h2, hi, hc, hl,
      hsc.trans (by rw [List.cons_append, List.length_cons, Nat.add_assoc, Nat.add_comm 1])⟩

/-- positions that are processed — the search is on, or they all lie after the start — go as `cut` says -/
theorem process_phase (t : Table) (m : Matcher) (q : Query) {onIndex : Bool} (start : SearchStart) :
    ∀ (rs : List α) (st : SearchState), At pk ik onIndex st rs →
    (st.started = true ∨ ∀ a ∈ rs, isAfter start onIndex (ik a) (pk a) q.forward = true) →
    (q.limit ≠ 0 → st.count < q.limit) →
    (∀ a ∈ rs, ∃ item, alookup (pk a) t.data = some item ∧ Answers m q item) →
    ∃ st', searchLoop t m q onIndex start st (rs.map ik) = .ok st' ∧ PageOut t m q st st' (rs.map pk) := by
  intro rs
  induction rs with
  | nil =>
    intro st _ _ hlt _
    exact ⟨st, rfl, ⟨rfl, rfl, rfl, nofun, fun _ => ⟨rfl, hlt⟩⟩⟩
  | cons a rs ih =>
    intro st hat hgo hlt hall
    obtain ⟨item, hk, ha⟩ := hall a (List.mem_cons_self ..)
    obtain rfl : itemOf t (pk a) = item := congrArg (·.getD []) hk
    have hstep := searchStep_go t m q start hat (hgo.imp id (· a (List.mem_cons_self ..))) hk ha
    rw [List.map_cons, List.map_cons, searchLoop_cons hstep]
    cases hstop : (q.limit != 0 && q.limit == (if counts m q (itemOf t (pk a)) then st.count + 1 else st.count)) with
    | true =>
      have hcut := cut_stop (rs.map pk) hstop
      simp only [Bool.and_eq_true, bne_iff_ne, ne_eq, beq_iff_eq] at hstop
      exact ⟨_, rfl,
        ⟨by rw [hcut, pick_cons]; cases verdict m q (itemOf t (pk a)) <;> rfl,
         by rw [hcut]; rfl, by rw [hcut]; rfl,
         fun _ => ⟨hstop.2.symm, hstop.1⟩, fun h => by rw [hcut] at h; cases h⟩⟩
    | false =>
      have hcut := cut_go (rs.map pk) hstop
      have hlt' : q.limit ≠ 0 → (if counts m q (itemOf t (pk a)) then st.count + 1 else st.count) < q.limit :=
        fun h0 => lt_limit_of_go (hlt h0) (ite_succ_bounds _ _).2 hstop
      obtain ⟨st', hloop, hout⟩ := ih { adv onIndex st with
          started := true,
          items := if verdict m q (itemOf t (pk a)) then itemOf t (pk a) :: st.items else st.items,
          scanned := st.scanned + 1,
          count := if counts m q (itemOf t (pk a)) then st.count + 1 else st.count,
          last := itemOf t (pk a) } (hat.tail rfl) (.inl rfl) hlt' (fun b hb => hall b (List.mem_cons_of_mem _ hb))
      exact ⟨st', hloop,
        ⟨by rw [hcut, hout.items, pick_cons]; cases verdict m q (itemOf t (pk a)) <;> simp,
         by rw [hcut, hout.last, lastItem_cons],
         by rw [hcut, hout.scanned]; exact Nat.add_right_comm ..,
         by rw [hcut]; exact hout.stopped,
         fun h => ⟨cut_complete t m q _ _ h, by rw [hcut] at h; exact (hout.complete h).2⟩⟩⟩

theorem PageOut.of_eq {t : Table} {m : Matcher} {q : Query} {st1 st2 st' : SearchState} {ks : List Bytes}
    (h : PageOut t m q st1 st' ks) (hi : st1.items = st2.items) (hc : st1.count = st2.count) (hl : st1.last = st2.last)
    (hs : st1.scanned = st2.scanned) : PageOut t m q st2 st' ks :=
  ⟨hi ▸ hc ▸ h.items, hl ▸ hc ▸ h.last, hs ▸ hc ▸ h.scanned, hc ▸ h.stopped, hc ▸ h.complete⟩

/-- **the loop over a chain of positions**: if `rs` is a chain for the read order `af`, a position lies after the
    start (`isAfter`) exactly if it lies after `s0` in that order, and only `s0` itself may carry the start key, then
    the loop skips `n` positions and processes those after `s0` as `cut` says.  When the search is on from the
    beginning it processes all of `rs` and nothing is asked of the start. -/
theorem searchLoop_page {af : α → α → Bool} (so : Chain.StrictOrd af) (s0 : α) (t : Table) (m : Matcher) (q : Query)
    {onIndex : Bool} (start : SearchStart) (rs : List α) (st : SearchState)
    (hc : Chain.IsChain af rs) (hat : At pk ik onIndex st rs)
    (hpast : st.started = false → ∀ a ∈ rs, isAfter start onIndex (ik a) (pk a) q.forward = af a s0)
    (huniq : st.started = false → ∀ a ∈ rs, pk a = start.key → a = s0)
    (hlim : q.limit ≠ 0 → st.count < q.limit)
    (hstored : ∀ a ∈ rs, ∃ item, alookup (pk a) t.data = some item ∧ Answers m q item) :
    ∃ st' n, searchLoop t m q onIndex start st (rs.map ik) = .ok st' ∧
      n + (if st.started then rs else rs.filter (af · s0)).length = rs.length ∧
      PageOut t m q { st with scanned := st.scanned + n } st' ((if st.started then rs else rs.filter (af · s0)).map pk) := by
  cases hst : st.started with
  | true =>
    obtain ⟨st', h, hout⟩ := process_phase t m q start rs st hat (.inl hst) hlim hstored
    exact ⟨st', 0, h, Nat.zero_add _, hout.of_eq rfl rfl rfl rfl⟩
  | false =>
    simp only [Bool.false_eq_true, if_false]
    specialize hpast hst; specialize huniq hst
    -- `rs = lo ++ mid ++ hi`: before `s0`, `s0` itself if it occurs, after `s0`
    obtain ⟨lo, mid, he, hlo, hmid⟩ := Chain.split3 so s0 rs hc
    have hhi : ∀ a ∈ rs.filter (af · s0), af a s0 = true := fun a ha => (List.mem_filter.1 ha).2
    generalize rs.filter (af · s0) = hi at he hhi
    subst he
    have hmidna : ∀ a ∈ mid, af a s0 = false := by
      rcases hmid with rfl | rfl
      · simp
      · simpa using so.irrefl s0
    obtain ⟨st1, h1, hat1, hi1, hc1, hl1, hs1⟩ := skip_phase t m q start mid (hmid.imp_right fun h => ⟨s0, h⟩) lo hi st hst hat
      (fun a ha => (hpast a (List.mem_append_left _ ha)).trans
        ((List.mem_append.1 ha).elim (fun h => (hlo a h).1) (hmidna a)))
      (fun a ha h => (hlo a ha).2 (huniq a (by simp [ha]) h))
    obtain ⟨st', h, hout⟩ := process_phase t m q start hi st1 hat1
      (.inr fun a ha => (hpast a (List.mem_append_right _ ha)).trans (hhi a ha))
      (hc1 ▸ hlim) (fun a ha => hstored a (List.mem_append_right _ ha))
    refine ⟨st', (lo ++ mid).length, ?_, by simp only [List.length_append], ?_⟩
    · rw [List.map_append, h1, h]
    · exact hout.of_eq hi1 hc1 hl1 hs1


/-- from the loop's outcome to the result of `searchData`: the items, and the LastEvaluatedKey (`K` builds it from the
    last item), which is reported exactly when the Limit was reached -/
theorem PageOut.result {t : Table} {m : Matcher} {q : Query} {st st' : SearchState} {ks : List Bytes}
    (h : PageOut t m q st st' ks) (hi : st.items = []) (hc : st.count = 0) (hl : st.last = []) {len : Nat}
    (hn : st.scanned + ks.length ≤ len) (K : Item → Item) :
    st'.items.reverse = pick t m q (cut t m q 0 ks).1 ∧
    (if st'.last.isEmpty || q.limit == 0 || !(decide (st'.scanned ≤ len) && decide (q.limit ≤ st'.count)) then []
      else K st'.last) =
      if (cut t m q 0 ks).2 && !(lastItem t (cut t m q 0 ks).1 []).isEmpty then K (lastItem t (cut t m q 0 ks).1 []) else [] := by
  obtain ⟨h1, h2, h3, h4, h5⟩ := h
  rw [hc] at h1 h2 h3 h4 h5
  rw [hi] at h1; rw [hl] at h2
  refine ⟨by rw [h1]; simp, ?_⟩
  rw [h2]
  cases hcut : (cut t m q 0 ks).2 with
  | true =>
    obtain ⟨hcnt, hne⟩ := h4 hcut
    have hle : st'.scanned ≤ len := by have := cut_length_le t m q ks 0; omega
    simp [hcnt, hne, hle]
  | false =>
    have := (h5 hcut).2
    by_cases h0 : q.limit = 0
    · simp [h0]
    · have : ¬ q.limit ≤ st'.count := Nat.not_le.2 (this h0)
      simp [this]

end Minidyn.Props.C04

/-
  C04 — the concatenation theorem, for reads of the table itself (Query or Scan without IndexName).

  `page_spec` (`searchLoop_page` for the key list of the table) says what one page is.  It does not require the start
  key to be in the table, so a read resumed after the item named by the LastEvaluatedKey was deleted returns the keys
  positioned after it.  `paginate_complete`: passing each LastEvaluatedKey back as ExclusiveStartKey ends and the
  pages concatenate to the unpaginated result (`paginate_eq_unpaginated`), for a matcher that answers and a table in
  which items are stored under their own keys (`Keyed`: kept by PutItem and DeleteItem, hence true in states reached
  without UpdateItem, `ReachGen.reachable_keyed`; UpdateItem can break it — KF-C13-update-changes-key).
  The proof needs the key string of a stored item to be non-empty (`C13.key_nonempty`); the code did not guarantee
  that — an item with the empty string as key made pagination loop for ever — and was repaired (fix 001b480).
  `paginate_of_pages`, the induction over the pages, also serves reads through an index: `Props/C04Index.lean`.
-/
import Minidyn.Lemmas.Key
import Minidyn.Props.C04Loop
import Minidyn.Props.C13
namespace Minidyn.Props.C04
open Minidyn.Table Minidyn.Props.C01 Minidyn.Props.C02

def aft (fwd : Bool) (a b : Bytes) : Bool := if fwd then Bytes.cmp a b == .gt else Bytes.cmp a b == .lt
def Chain (fwd : Bool) : List Bytes → Prop
  | [] => True
  | x :: xs => (∀ y ∈ xs, aft fwd y x = true) ∧ Chain fwd xs

theorem aft_strict (fwd : Bool) : Chain.StrictOrd (aft fwd) :=
  Chain.StrictOrd.ofCmp Bytes.cmp_refl Bytes.cmp_lt_gt Bytes.cmp_trans_lt fwd

theorem chain_iff (fwd : Bool) : ∀ l : List Bytes, Chain fwd l ↔ Chain.IsChain (aft fwd) l
  | [] => Iff.rfl
  | _ :: xs => and_congr_right fun _ => chain_iff fwd xs

theorem order_chain (t : Table) (hinv : TableInv t) (fwd : Bool) :
    Chain fwd (if fwd then t.sortedKeys else t.sortedKeys.reverse) :=
  (chain_iff fwd _).2 (Chain.of_sorted_cmp Bytes.cmp_lt_gt Bytes.le_trans'
    (fun _ _ hle hne => beq_iff_eq.1 (Bytes.lt_iff_le_ne.2 ⟨hle, hne⟩)) hinv.sorted hinv.nodup fwd)

/-- the key string of ExclusiveStartKey; empty when there is none or `getKey` rejects it -/
def startOf (t : Table) (q : Query) : Bytes := (parseSearchStart t none q.startKey).key

def orderOf (t : Table) (q : Query) : List Bytes := if q.forward then t.sortedKeys else t.sortedKeys.reverse

/-- the keys positioned after the start of the read, in read order -/
def afterKeys (t : Table) (q : Query) : List Bytes :=
  if (startOf t q).isEmpty then orderOf t q else (orderOf t q).filter fun k => aft q.forward k (startOf t q)

/-- the LastEvaluatedKey a page reports -/
def lekOf (t : Table) (m : Matcher) (q : Query) : Item :=
  let c := cut t m q 0 (afterKeys t q)
  if c.2 && !(lastItem t c.1 []).isEmpty then Key.keyItem t.schema (lastItem t c.1 []) else []

theorem mem_orderOf {t : Table} {q : Query} {k : Bytes} : k ∈ orderOf t q ↔ k ∈ t.sortedKeys := by
  unfold orderOf; split <;> simp

theorem length_orderOf (t : Table) (q : Query) : (orderOf t q).length = t.sortedKeys.length := by
  unfold orderOf; split <;> simp

/-- **what one page is**: the items of the keys positioned after the start key — whether or not that key is (still)
    in the table — in read order, up to the one that brings the count of evaluated items to the Limit;
    LastEvaluatedKey is reported exactly when the Limit was reached (by an item that is not empty) -/
theorem page_spec (t : Table) (m : Matcher) (q : Query) (hinv : TableInv t) (hchain : Chain q.forward (orderOf t q))
    (hidx : q.index = [])
    (ha : ∀ k item, alookup k t.data = some item → Answers m q item) :
    ∃ r, t.searchData m q = .ok r ∧ r.items = pick t m q (cut t m q 0 (afterKeys t q)).1 ∧ r.lastKey = lekOf t m q := by
  obtain ⟨st', n, hloop, hn, hout⟩ := searchLoop_page (pk := id) (ik := id) (onIndex := false) (aft_strict q.forward) (startOf t q) t m q
    (parseSearchStart t none q.startKey) (orderOf t q) { started := (startOf t q).isEmpty, refs := [] }
    ((chain_iff _ _).1 hchain) (At.ofTable _ _)
    (fun _ _ _ => rfl)  -- on the table itself `isAfter` is `aft` against the start key, by definition
    (fun _ _ _ h => h)
    (fun h => Nat.pos_of_ne_zero h)
    (fun k hk => (hinv.mem_iff_stored.1 (mem_orderOf.1 hk)).imp fun item hi => ⟨hi, ha k item hi⟩)
  rw [List.map_id] at hloop hout
  obtain ⟨h1, h2⟩ := hout.result (len := t.sortedKeys.length) rfl rfl rfl
    (by rw [← length_orderOf t q, ← hn]; simp only [Nat.zero_add]; exact Nat.le_refl _) (Key.keyItem t.schema)
  refine ⟨⟨st'.items.reverse, lekOf t m q⟩, ?_, h1, rfl⟩
  simp only [searchData, hidx, List.isEmpty_nil, if_true, Option.isSome_none, bind, Except.bind]
  unfold startOf orderOf at hloop
  rw [hloop]
  exact congrArg (fun l => Except.ok (SearchResult.mk st'.items.reverse l)) h2


/-- every item is stored under the key string of its own key attributes (what PutItem establishes; UpdateItem may
    break it: KF-C13-update-changes-key) -/
structure Keyed (t : Table) : Prop where
  primary : t.schema.secondary = false
  keyed : ∀ k item, alookup k t.data = some item → Key.getKey t.schema t.attrs (Key.keyItem t.schema item) = .ok k

def withStart (q : Query) (esk : Item) : Query := { q with startKey := esk }

@[simp] theorem withStart_forward (q : Query) (esk : Item) : (withStart q esk).forward = q.forward := rfl
@[simp] theorem withStart_index (q : Query) (esk : Item) : (withStart q esk).index = q.index := rfl
@[simp] theorem withStart_startKey (q : Query) (esk : Item) : (withStart q esk).startKey = esk := rfl

theorem cut_startKey (t : Table) (m : Matcher) (q : Query) (esk : Item) (c : Nat) (ks : List Bytes) :
    cut t m (withStart q esk) c ks = cut t m q c ks := by
  induction ks generalizing c with
  | nil => rfl
  | cons k ks ih => simp only [cut, ih]; rfl

theorem orderOf_startKey (t : Table) (q : Query) (esk : Item) : orderOf t (withStart q esk) = orderOf t q := rfl

/-- read page after page, passing each LastEvaluatedKey back as ExclusiveStartKey, until none comes
    back; `none` when `fuel` pages were not enough -/
def paginate (t : Table) (m : Matcher) (q : Query) : Nat → Item → Except String (Option (List Item))
  | 0, _ => pure none
  | fuel + 1, esk => do
    let r ← t.searchData m (withStart q esk)
    if r.lastKey.isEmpty then pure (some r.items)
    else do
      let rest ← paginate t m q fuel r.lastKey
      pure (rest.map (r.items ++ ·))

/-- **pagination in general**, for the table and for an index alike: `A esk` the primary keys positioned after the
    start `esk`, `V` the starts that are in order.  If every page is the `cut` of `A esk`, reports no key when the cut
    did not stop and, when it stopped at `kn`, a non-empty key, in order, after which exactly the keys behind `kn` are
    positioned, then pagination ends within `(A esk).length + 1` pages and concatenates to the items of `A esk`. -/
theorem paginate_of_pages (t : Table) (m : Matcher) (q : Query) (A : Item → List Bytes) (V : Item → Prop)
    (hpage : ∀ esk, V esk → ∃ r, t.searchData m (withStart q esk) = .ok r ∧
      r.items = pick t m q (cut t m q 0 (A esk)).1 ∧ ((cut t m q 0 (A esk)).2 = false → r.lastKey = []) ∧
      ((cut t m q 0 (A esk)).2 = true → ∀ pre kn rest, (cut t m q 0 (A esk)).1 = pre ++ [kn] → A esk = pre ++ kn :: rest →
        r.lastKey ≠ [] ∧ V r.lastKey ∧ A r.lastKey = rest)) :
    ∀ fuel esk, V esk → (A esk).length < fuel → paginate t m q fuel esk = .ok (some (pick t m q (A esk))) := by
  intro fuel
  induction fuel with
  | zero => intro _ _ h; cases h
  | succ fuel ih =>
    intro esk hv hlen
    obtain ⟨r, hr, hitems, hnone, hnext⟩ := hpage esk hv
    simp only [paginate, hr, bind, Except.bind]
    cases hstop : (cut t m q 0 (A esk)).2 with
    | false =>
      -- the Limit was not reached: the page is the whole rest, no key is reported
      rw [hnone hstop, hitems, cut_complete t m q _ 0 hstop]; rfl
    | true =>
      obtain ⟨pre, kn, rest, hP, hA⟩ := cut_stopped_last t m q _ 0 hstop
      obtain ⟨hne, hv', hA'⟩ := hnext hstop pre kn rest hP hA
      have hlen' : (A r.lastKey).length < fuel := by
        rw [hA'];  rw [hA, List.length_append, List.length_cons] at hlen; omega
      rw [List.isEmpty_eq_false_iff.2 hne, ih r.lastKey hv' hlen', hitems, hP, hA', hA]
      simp only [Bool.false_eq_true, if_false, pure, Except.pure, Option.map_some, ← pick_append, List.append_assoc,
        List.singleton_append]

theorem mem_afterKeys {t : Table} {q : Query} {k : Bytes} (h : k ∈ afterKeys t q) : k ∈ t.sortedKeys := by
  unfold afterKeys at h
  split at h
  · exact mem_orderOf.1 h
  · exact mem_orderOf.1 (List.mem_filter.1 h).1

/-- **resuming after key `kn`**: if the keys after the start of one read are `pre ++ kn :: rest`, the keys after `kn`
    are exactly `rest`: nothing is skipped, nothing repeated -/
theorem after_member (t : Table) (q : Query) (hchain : Chain q.forward (orderOf t q)) (pre rest : List Bytes) (kn : Bytes)
    (hA : afterKeys t q = pre ++ kn :: rest) :
    (orderOf t q).filter (fun k => aft q.forward k kn) = rest :=
  Chain.filter_after_of_filter (aft_strict q.forward) ((chain_iff _ _).1 hchain) (startOf t q) (startOf t q).isEmpty hA

/-- a page that stopped at `kn` reports a key that renders to `kn` again: this is where `Keyed` is needed -/
theorem lekOf_stopped (t : Table) (m : Matcher) (q : Query) (hinv : TableInv t) (hkeyed : Keyed t)
    (hstop : (cut t m q 0 (afterKeys t q)).2 = true) {pre rest : List Bytes} {kn : Bytes}
    (hP : (cut t m q 0 (afterKeys t q)).1 = pre ++ [kn]) (hA : afterKeys t q = pre ++ kn :: rest) :
    ∃ item, lekOf t m q = Key.keyItem t.schema item ∧ Key.getKey t.schema t.attrs (Key.keyItem t.schema item) = .ok kn := by
  obtain ⟨item, hitem⟩ := hinv.mem_iff_stored.1 (mem_afterKeys (hA ▸ List.mem_append_right _ (List.mem_cons_self ..)))
  have hkey := hkeyed.keyed kn item hitem
  have hne : item ≠ [] := Key.ne_nil_of_getKey hkeyed.primary ((Key.getKey_keyItem ..).symm.trans hkey)
  refine ⟨item, ?_, hkey⟩
  simp [lekOf, hstop, hP, lastItem_snoc, itemOf, hitem, hne]

/-- **C04**, for a read of the table itself, under `TableInv` and `Keyed`, with a matcher that answers: for every
    Limit and direction, pagination from any start ends within (number of keys after the start) + 1 pages and returns,
    concatenated, exactly the items an unlimited read returns from that start (`page_spec`) — nothing lost,
    duplicated or reordered -/
theorem paginate_complete (t : Table) (m : Matcher) (q : Query) (hinv : TableInv t) (hkeyed : Keyed t)
    (hidx : q.index = [])
    (ha : ∀ k item, alookup k t.data = some item → Answers m q item) :
    ∀ (n : Nat) (esk : Item), (afterKeys t (withStart q esk)).length ≤ n → ∀ fuel, n < fuel →
      paginate t m q fuel esk = .ok (some (pick t m q (afterKeys t (withStart q esk)))) := by
  intro n esk hn fuel hf
  refine paginate_of_pages t m q (fun esk => afterKeys t (withStart q esk)) (fun _ => True) ?_ fuel esk trivial
    (Nat.lt_of_le_of_lt hn hf)
  intro esk _
  have hchain : Chain q.forward (orderOf t (withStart q esk)) := order_chain t hinv q.forward
  obtain ⟨r, hr, hitems, hlek⟩ := page_spec t m (withStart q esk) hinv hchain hidx ha
  rw [cut_startKey] at hitems
  refine ⟨r, hr, hitems, fun hstop => by simp [hlek, lekOf, cut_startKey, hstop], fun hstop pre kn rest hP hA => ?_⟩
  obtain ⟨item, hl, hkey⟩ := lekOf_stopped t m (withStart q esk) hinv hkeyed (by rw [cut_startKey]; exact hstop) (by rw [cut_startKey]; exact hP) hA
  rw [← hlek] at hl
  have hlne : r.lastKey ≠ [] := hl ▸ Key.ne_nil_of_getKey hkeyed.primary hkey
  -- the next read starts after `kn`
  have hstart : startOf t (withStart q r.lastKey) = kn := by
    simp only [startOf, parseSearchStart, withStart_startKey, List.isEmpty_eq_false_iff.2 hlne, Bool.false_eq_true, if_false]
    rw [hl, hkey]; rfl
  refine ⟨hlne, trivial, ?_⟩
  unfold afterKeys
  rw [hstart, List.isEmpty_eq_false_iff.2 (C13.key_nonempty _ _ _ _ hkeyed.primary hkey)]
  exact after_member t (withStart q esk) hchain pre rest kn hA

/-- from the beginning, pagination returns what the unpaginated read returns (`C02.search_exact`) -/
theorem paginate_eq_unpaginated (t : Table) (m : Matcher) (q : Query) (hinv : TableInv t) (hkeyed : Keyed t)
    (hidx : q.index = [])
    (ha : ∀ k item, alookup k t.data = some item → Answers m q item) :
    paginate t m q (t.sortedKeys.length + 1) [] =
      .ok (some (pick t m q (if q.forward then t.sortedKeys else t.sortedKeys.reverse))) :=
  paginate_complete t m q hinv hkeyed hidx ha t.sortedKeys.length [] (Nat.le_of_eq (length_orderOf t q)) _ (Nat.lt_succ_self _)

/-- `Keyed` looks at the key schema, the declared types of the key attributes and the stored items only, and is
    kept when items go -/
theorem keyed_congr {t t' : Table} (hk : Keyed t) (hs : t'.schema = t.schema)
    (hd : ∀ k item, alookup k t'.data = some item → alookup k t.data = some item)
    (hh : (alookup t.schema.hash t'.attrs).getD [] = (alookup t.schema.hash t.attrs).getD [])
    (hr : (alookup t.schema.range t'.attrs).getD [] = (alookup t.schema.range t.attrs).getD []) : Keyed t' :=
  ⟨hs ▸ hk.primary, fun k item hl => by
    rw [hs, Key.getKey_attrs_congr t.schema t.attrs t'.attrs _ hh hr]; exact hk.keyed k item (hd k item hl)⟩

theorem keyed_store {t : Table} (hk : Keyed t) (k : Bytes) {item : Item}
    (hkey : Key.getKey t.schema t.attrs item = .ok k) : Keyed (t.store k item) := by
  refine ⟨store_schema t k item ▸ hk.primary, fun k' item' hst => ?_⟩
  rw [store_schema, store_attrs]
  rw [store_data] at hst
  rcases alookup_ainsert_some hst with ⟨rfl, rfl⟩ | hst
  · rw [Key.getKey_keyItem]; exact hkey
  · exact hk.keyed k' item' hst

/-- **PutItem keeps every item under its own key** -/
theorem keyed_put (t t' : Table) (m : Matcher) (item : Item) (cond : Option Bytes) (hk : Keyed t)
    (h : t.put m item cond = .ok t') : Keyed t' := by
  obtain ⟨key, hkey, _, _, rfl⟩ := put_ok_iff.1 h
  exact keyed_store hk key hkey

theorem keyed_empty (t : Table) (hp : t.schema.secondary = false) (hd : t.data = []) : Keyed t :=
  ⟨hp, fun k item h => by rw [hd] at h; cases h⟩

theorem keyed_delete (t t' : Table) (m : Matcher) (keyAttrs : Item) (cond : Option Bytes) (old : Option Item) (hk : Keyed t)
    (h : t.delete m keyAttrs cond = .ok (t', old)) : Keyed t' := by
  obtain ⟨key, _, _, _, rfl⟩ := delete_ok_iff.1 h
  exact keyed_congr hk (erase_schema t key) (fun k item hl => alookup_of_aerase (erase_data t key ▸ hl))
    (by rw [erase_attrs]) (by rw [erase_attrs])

/-- **UpdateItem keeps every item under its own key, provided the update leaves the key attributes of the
    item alone** (what the code does not enforce: KF-C13-update-changes-key) -/
theorem keyed_update (t t' : Table) (m : Matcher) (upd : Table.Updater) (keyAttrs : Item) (cond : Option Bytes) (res : Item)
    (hk : Keyed t) (hp : t.update m upd keyAttrs cond = .ok (t', res))
    (hkeep : ∀ base, upd base = .ok res → alookup t.schema.hash res = alookup t.schema.hash base ∧
      alookup t.schema.range res = alookup t.schema.range base) : Keyed t' := by
  obtain ⟨key, hkey, _, hu, _, rfl⟩ := update_ok_iff.1 hp
  refine keyed_store hk key ?_
  rw [Key.getKey_congr t.schema t.attrs res _ (hkeep _ hu).1 (fun _ => (hkeep _ hu).2)]
  -- the updater's base renders to `key`: a stored item because the table is keyed, the key attributes by `hkey`
  cases hst : alookup key t.data with
  | none => exact hkey
  | some stored => rw [Option.getD_some, ← Key.getKey_keyItem]; exact hk.keyed key stored hst

end Minidyn.Props.C04

namespace Minidyn.Props.C02
open Minidyn.Table Minidyn.Props.C01 Minidyn.Props.C04

/-- **C02**: an unpaginated read of the table returns the stored items whose attributes satisfy the key condition
    and the filter, in the order of the sorted key list (reversed when asked), and no LastEvaluatedKey -/
theorem search_exact (t : Table) (m : Matcher) (q : Query) (hinv : TableInv t)
    (hidx : q.index = []) (hl : q.limit = 0) (hsk : q.startKey = [])
    (ha : ∀ k item, alookup k t.data = some item → Answers m q item) :
    ∃ r, t.searchData m q = .ok r ∧
      r.items = pick t m q (if q.forward then t.sortedKeys else t.sortedKeys.reverse) ∧ r.lastKey = [] := by
  obtain ⟨r, hr, hitems, hlek⟩ := page_spec t m q hinv (order_chain t hinv q.forward) hidx ha
  have hA : afterKeys t q = orderOf t q := by simp [afterKeys, startOf, parseSearchStart, hsk]
  have hc := cut_limit_zero t m hl 0 (orderOf t q)
  exact ⟨r, hr, by rw [hitems, hA, hc]; rfl, by rw [hlek, lekOf, hA, hc]; rfl⟩

end Minidyn.Props.C02

/-
  Minidyn.Props.C05 — a conditional write of `Model.Table` is decided on the item stored under the request's own key
  (`t.getItem key`, the empty item when nothing is stored), for any interpreter `m`.

  `put_iff`, `delete_iff`, `C05Seq.update_iff`: with a non-empty condition text (the empty one is refused unparsed:
  KF-C09-empty-expression) the write succeeds iff `m` answers `true` on that item — a put given valid index keys
  (without, a put whose condition holds is a validation error), an update given also that the updater accepts.
  `put_local`, `delete_local` (none for `update`): two tables that hold the same item under the key decide alike;
  upstream DeleteItem searched the whole table for an item that meets the condition (/repo 4b3107a; the `example`).
  `*_refused`: the refusal carries the stored item.  That no other caller's write falls between check and write is C11.
-/
import Minidyn.Lemmas.Table
namespace Minidyn.Props.C05
open Minidyn.Table

theorem checkCondition_spec (m : Matcher) (c : Bytes) (hc : c ≠ []) (stored : Item) :
    checkCondition m (some c) stored =
      match m .cond c stored with
      | .ok true => .ok ()
      | .ok false => .error (.conditionFailed stored)
      | .panic cls => .error (.panic cls) := by
  simp only [checkCondition, List.isEmpty_eq_false_iff.2 hc, Bool.false_eq_true, if_false]
  cases m .cond c stored with
  | ok b => cases b <;> rfl
  | panic cls => rfl

theorem checkCondition_none (m : Matcher) (stored : Item) : checkCondition m none stored = .ok () := rfl

/-- a condition that is false of the item is refused, and so is the empty text, which is not evaluated at all
    (KF-C09-empty-expression): the refusals below do not use `c ≠ []` -/
theorem checkCondition_refused {m : Matcher} {c : Bytes} {stored : Item} (hf : m .cond c stored = .ok false) :
    checkCondition m (some c) stored = .error (.conditionFailed stored) := by
  simp only [checkCondition, hf]; split <;> rfl

theorem checkCondition_ok_iff (m : Matcher) {c : Bytes} (hc : c ≠ []) (stored : Item) :
    checkCondition m (some c) stored = .ok () ↔ m .cond c stored = .ok true := by
  rw [checkCondition_spec m c hc]
  cases m .cond c stored with
  | ok b => cases b <;> simp
  | panic cls => simp

/-- **C05**, `Table.Put`: a conditional put of an item with valid index keys (`hv`; without, a put whose condition holds
    is `.error .validation`) succeeds iff the condition holds of the item stored under the request's key -/
theorem put_iff {t : Table} {m : Matcher} {item : Item} {c key : Bytes} (hc : c ≠ [])
    (hk : Key.getKey t.schema t.attrs item = .ok key) (hv : t.validateIndexKeys item = true) :
    (∃ t', t.put m item (some c) = .ok t') ↔ m .cond c (t.getItem key) = .ok true := by
  simp only [put_ok_iff, hk, Except.ok.injEq, exists_eq_left', hv, true_and, checkCondition_ok_iff m hc]
  exact ⟨fun ⟨_, h, _⟩ => h, fun h => ⟨_, h, rfl⟩⟩

theorem put_refused {t : Table} {m : Matcher} {item : Item} {c key : Bytes} (hc : c ≠ [])
    (hk : Key.getKey t.schema t.attrs item = .ok key) (hf : m .cond c (t.getItem key) = .ok false) :
    t.put m item (some c) = .error (.conditionFailed (t.getItem key)) :=
  put_of_check_error hk (checkCondition_refused hf)

/-- **C05**, `Table.Delete`: decided on the target item (`getItem key`), not on a search of the table -/
theorem delete_iff {t : Table} {m : Matcher} {keyAttrs : Item} {c key : Bytes} (hc : c ≠ [])
    (hk : Key.getKey t.schema t.attrs keyAttrs = .ok key) :
    (∃ r, t.delete m keyAttrs (some c) = .ok r) ↔ m .cond c (t.getItem key) = .ok true := by
  simp only [Prod.exists, delete_ok_iff, hk, Except.ok.injEq, exists_eq_left', checkCondition_ok_iff m hc]
  exact ⟨fun ⟨_, _, h, _⟩ => h, fun h => ⟨_, _, h, rfl, rfl⟩⟩

theorem delete_refused {t : Table} {m : Matcher} {keyAttrs : Item} {c key : Bytes} (hc : c ≠ [])
    (hk : Key.getKey t.schema t.attrs keyAttrs = .ok key) (hf : m .cond c (t.getItem key) = .ok false) :
    t.delete m keyAttrs (some c) = .error (.conditionFailed (t.getItem key)) :=
  delete_of_check_error hk (checkCondition_refused hf)

/-- `Table.Update`: at an absent key the condition sees the empty item (the updater starts from the key attributes
    instead: `C05Seq.update_iff`) -/
theorem update_refused {t : Table} {m : Matcher} {upd : Updater} {keyAttrs : Item} {c key : Bytes} (hc : c ≠ [])
    (hk : Key.getKey t.schema t.attrs keyAttrs = .ok key) (hf : m .cond c (t.getItem key) = .ok false) :
    t.update m upd keyAttrs (some c) = .error (.conditionFailed (t.getItem key)) :=
  update_of_check_error hk (checkCondition_refused hf)

theorem delete_local {t u : Table} {m : Matcher} {keyAttrs : Item} {c key : Bytes} (hc : c ≠ [])
    (hkt : Key.getKey t.schema t.attrs keyAttrs = .ok key) (hku : Key.getKey u.schema u.attrs keyAttrs = .ok key)
    (hsame : t.getItem key = u.getItem key) :
    (∃ r, t.delete m keyAttrs (some c) = .ok r) ↔ (∃ r, u.delete m keyAttrs (some c) = .ok r) := by
  rw [delete_iff hc hkt, delete_iff hc hku, hsame]

theorem put_local {t u : Table} {m : Matcher} {item : Item} {c key : Bytes} (hc : c ≠ [])
    (hkt : Key.getKey t.schema t.attrs item = .ok key) (hku : Key.getKey u.schema u.attrs item = .ok key)
    (hvt : t.validateIndexKeys item = true) (hvu : u.validateIndexKeys item = true)
    (hsame : t.getItem key = u.getItem key) :
    (∃ t', t.put m item (some c) = .ok t') ↔ (∃ u', u.put m item (some c) = .ok u') := by
  rw [put_iff hc hkt hvt, put_iff hc hku hvu, hsame]

/-- non-vacuity: a bystander that satisfies the condition does not let the delete through -/
example :
    let m : Matcher := fun _ _ item => .ok (alookup [118] item == some (.s [97]))      -- v = "a"
    let t : Table := { name := [116], schema := { hash := [104] }, attrs := [([104], [83])],
                       sortedKeys := [[49], [50]],
                       data := [([49], [([104], .s [49]), ([118], .s [97])]), ([50], [([104], .s [50]), ([118], .s [98])])] }
    (t.delete m [([104], .s [50])] (some [99])).toOption.isNone = true := by
  decide +kernel

end Minidyn.Props.C05

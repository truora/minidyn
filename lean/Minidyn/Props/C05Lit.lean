/-
  Minidyn.Props.C05Lit — the create-if-absent idiom with the built-in interpreter (`Interp.langMatch`: the model's
  lexer, parser and evaluator) in place of the abstract matcher of `C05Seq`.

  `langMatch_notExists`: on an item that loads into an environment the text `attribute_not_exists(h)`, without
  placeholders, answers whether the item lacks `h`.  An item that does not load is answered `.error .unsupported` (a
  `.panic` of the matcher), so `hm` of `C05Seq.first_put_wins` is false here; `first_put_wins'` asks for two verdicts.
  `first_put_wins_builtin`: `C05Seq.puts`, a fold of `Table.put`, with `Client.matcher c table {}` (native interpreter
  off) on a table `t` whose hash key is `h`: of the puts of one absent key the first is applied, no later one.
  `Client.putItem` (the placeholder check, the lookup of the table by name) does not occur: `table`, `t` are unrelated.
-/
import Minidyn.Model.Client
import Minidyn.Lemmas.Assoc
import Minidyn.Lemmas.Key
import Minidyn.Props.C05Seq
import Minidyn.Props.C07
import Minidyn.Props.C16
namespace Minidyn.Props.C05Lit
open Minidyn.Client Minidyn.Props.C01

/-- the text `attribute_not_exists(h)` -/
def notExistsH : Bytes := [97, 116, 116, 114, 105, 98, 117, 116, 101, 95, 110, 111, 116, 95, 101, 120, 105, 115, 116, 115, 40, 104, 41]

def notExistsTree : Expr :=
  .call (.ident { typ := .ident, lit := Eval.fn_attribute_not_exists }) [.ident { typ := .ident, lit := [104] }]

theorem parse_notExists : Parser.parseCond notExistsH = .ok notExistsTree := by rfl

theorem toObj_not_undefined (v : AV) (o : Obj) (h : v.toObj = some o) : o.isUndefined = false := by
  cases v <;> simp only [AV.toObj, Option.some.injEq, Option.map_eq_some_iff] at h <;> first | (subst h; rfl) | (obtain ⟨_, _, rfl⟩ := h; rfl)

/-- no loaded value is `undefined` (`toObj_not_undefined`), so after loading an item `k` is `undefined` or missing in
    the store iff it was before and the item does not have `k` -/
theorem load_undefined (k : Bytes) : ∀ (item : Item) (e e' : Env), e.load item = some e' →
    ((alookup k e'.store).getD Obj.undefined).isUndefined = (((alookup k e.store).getD Obj.undefined).isUndefined && !ahas k item)
  | [], e, e', h => by cases h; exact (Bool.and_true _).symm
  | (k', v) :: rest, e, e', h => by
    obtain ⟨o, hv, h⟩ := Option.bind_eq_some_iff.1 h
    simp only [load_undefined k rest _ e' h, ahas, alookup_cons, alookup_ainsert]
    split
    · -- `k` itself is loaded: the item has it, and its value is not `undefined`
      rw [Option.getD_some, toObj_not_undefined v o hv, Bool.false_and]; exact (Bool.and_false _).symm
    · rfl

theorem callFn_notExists (a : Obj) : Eval.callFn Eval.fn_attribute_not_exists [a] = .ok (.bool a.isUndefined) := by rfl

theorem eval_notExists (env : Env) (e : Expr) (o : Obj) (h : Eval.eval env e = .ok o) :
    Eval.eval env (.call (.ident { typ := .ident, lit := Eval.fn_attribute_not_exists }) [e]) = .ok (.bool o.isUndefined) := by
  have hfl : Eval.fnLookup (.ident { typ := .ident, lit := Eval.fn_attribute_not_exists }) false = .ok (Eval.fn_attribute_not_exists, 1) := rfl
  rw [Eval.eval]
  simp only [hfl, bind, Except.bind, Eval.evalList, h, pure, Except.pure]
  exact callFn_notExists o

theorem get_noalias (e : Env) (ha : e.aliases = []) (k : Bytes) (hk : Env.splitDots k = [k]) :
    e.get k = .ok ((alookup k e.store).getD Obj.undefined) := by
  have hres : e.resolveName k = k := by rw [Env.resolveName, ha]; rfl
  unfold Env.get
  rw [hres]
  cases hs : alookup k e.store with
  | some o => simp only [hs]; rfl
  | none => simp only [ha, Env.expandName, hk, alookup_nil, List.flatMap_cons, List.flatMap_nil, List.append_nil, hs]; rfl

theorem langMatch_of_eval {expr : Bytes} {e : Expr} {item : Item} {env : Env} {b : Bool}
    (hp : Parser.parseCond expr = .ok e) (hu : Interp.undefinedValue expr [] = false) (hl : Interp.mkEnv [] item [] = some env)
    (hid : (Eval.identOf e).isSome = false) (hev : Eval.eval env e = .ok (.bool b)) :
    Interp.langMatch expr item [] [] = .ok b := by
  simp only [Interp.langMatch, hu, Bool.false_eq_true, if_false, Interp.langMatchCore, hp, hl, Eval.evalCondition, hid, hev, bind,
    Except.bind, pure, Except.pure]

/-- **the condition of the create-if-absent idiom through the model's lexer, parser and evaluator**: on an item that
    loads (`hl`) the text `attribute_not_exists(h)`, without placeholders, answers whether the item lacks the attribute
    `h`.  Not `hm` of `C05Seq.first_put_wins`: an item that does not load is answered `.error .unsupported`. -/
theorem langMatch_notExists (item : Item) (env : Env) (hl : Interp.mkEnv [] item [] = some env) :
    Interp.langMatch notExistsH item [] [] = .ok (!(ahas [104] item)) := by
  have hload : ({ aliases := [] } : Env).load item = some env := by
    simpa only [Interp.mkEnv, Env.load, Option.bind_eq_bind, Option.bind_fun_some] using hl
  -- `h` is not a reserved word, so it is looked up; what the lookup finds is `undefined` iff the item lacks `h`
  have hget : Eval.eval env (.ident { typ := .ident, lit := [104] }) = .ok ((alookup [104] env.store).getD Obj.undefined) := by
    rw [Eval.eval, C16.non_reserved_looked_up _ env (by decide +kernel)]
    exact get_noalias env (mkEnv_clean [] item [] env hl).2 [104] rfl
  have hun := (load_undefined [104] item _ env hload).trans (Bool.true_and _)
  exact langMatch_of_eval parse_notExists (by decide) hl rfl (hun ▸ eval_notExists env _ _ hget)

theorem matcher_notExists (c : Client) (hn : c.useNative = false) (table : Bytes) (item : Item) (env : Env)
    (hl : Interp.mkEnv [] item [] = some env) :
    matcher c table { names := [], values := [] } .cond notExistsH item = .ok (!(ahas [104] item)) := by
  unfold matcher
  simp only [hn, Bool.false_eq_true, if_false, langMatch_notExists item env hl]

/-- **C05, first writer wins with the built-in interpreter**: `C05Seq.puts` (a fold of `Table.put`, not of
    `Client.putItem`) with the text `attribute_not_exists(h)` and `Client.matcher`, native interpreter off, for one
    absent key of a table whose hash key is `h`: the first put is applied, no later one; the key ends with `first` -/
theorem first_put_wins_builtin (c : Client) (hn : c.useNative = false) (table : Bytes) (t : Table) (hT : TableInv t)
    (hh : t.schema.hash = [104]) (hsec : t.schema.secondary = false)
    (key : Bytes) (first : Item) (rest : List Item) (env : Env) (hl : Interp.mkEnv [] first [] = some env)
    (hk : ∀ it ∈ first :: rest, Key.getKey t.schema t.attrs it = .ok key)
    (hv : t.validateIndexKeys first = true) (habs : abs t key = none) :
    let m := matcher c table { names := [], values := [] }
    (C05Seq.puts m notExistsH t (first :: rest)).2 = true :: rest.map (fun _ => false) ∧
    abs (C05Seq.puts m notExistsH t (first :: rest)).1 key = some first := by
  intro m
  have h0 : m .cond notExistsH [] = .ok true := matcher_notExists c hn table [] _ rfl
  have h1 : m .cond notExistsH first = .ok false := by
    have := matcher_notExists c hn table first env hl
    have hhas : ahas [104] first = true := by
      rw [← hh]; exact Key.has_hash_of_getKey hsec (hk first (List.mem_cons_self ..))
    rw [hhas] at this; exact this
  have := C05Seq.first_put_wins' m notExistsH (by decide) t key first rest h0 h1 hk hv habs
  exact ⟨this.1, this.2.1⟩

end Minidyn.Props.C05Lit

/-
  Minidyn.Props.C05Seq — C05 continued: when a conditional `Table.Update` is applied (`update_iff`), and the two
  histories the property names as folds of `Table.put` / `Table.update` over one table, for every length.  That the
  requests of concurrent callers run one after the other is C11 (the client lock), not shown here.

  `first_put_wins`: conditional puts of one key the table does not hold, the first with valid index keys, the condition
  holding exactly of items without the hash attribute (`attribute_not_exists(hash)`): the first is applied, no later one
  (`puts` records `false` for any error, not only a refusal with the stored item).  When the condition fails on what the
  key holds none is applied (`puts_all_refused`).  `updates_compose`: if n unconditional updates of one key all succeed,
  the key ends with the updater applied n times to what it held (to the key attributes when it held nothing).
-/
import Minidyn.Lemmas.Key
import Minidyn.Props.C01
import Minidyn.Props.C05
namespace Minidyn.Props.C05Seq
open Minidyn.Table Minidyn.Props.C01 Minidyn.Props.C05

theorem update_iff {t : Table} {m : Matcher} {upd : Updater} {keyAttrs : Item} {c key : Bytes} (hc : c ≠ [])
    (hk : Key.getKey t.schema t.attrs keyAttrs = .ok key) :
    (∃ r, t.update m upd keyAttrs (some c) = .ok r) ↔
      m .cond c (t.getItem key) = .ok true ∧
      ∃ item, upd ((alookup key t.data).getD keyAttrs) = .ok item ∧ t.validateIndexKeys item = true := by
  simp only [Prod.exists, update_ok_iff, hk, Except.ok.injEq, exists_eq_left', checkCondition_ok_iff m hc]
  exact ⟨fun ⟨_, item, h, hu, hv, _⟩ => ⟨h, item, hu, hv⟩, fun ⟨h, item, hu, hv⟩ => ⟨_, item, h, hu, hv, rfl⟩⟩

/-- what a write keeps: the part of a table that decides how keys are built and which items are acceptable -/
structure SameShape (t t' : Table) : Prop where
  schema : t'.schema = t.schema
  attrs : t'.attrs = t.attrs
  validate : ∀ item, t'.validateIndexKeys item = t.validateIndexKeys item

theorem SameShape.rfl' (t : Table) : SameShape t t := ⟨rfl, rfl, fun _ => rfl⟩

theorem SameShape.trans {a b c : Table} (h1 : SameShape a b) (h2 : SameShape b c) : SameShape a c :=
  ⟨h2.schema.trans h1.schema, h2.attrs.trans h1.attrs, fun i => (h2.validate i).trans (h1.validate i)⟩

theorem sameShape_store (t : Table) (key : Bytes) (item : Item) : SameShape t (t.store key item) :=
  ⟨store_schema t key item, store_attrs t key item, store_validateIndexKeys t key item⟩

theorem sameShape_put {t t' : Table} {m : Matcher} {item : Item} {cond : Option Bytes}
    (h : t.put m item cond = .ok t') : SameShape t t' := by
  obtain ⟨key, _, _, _, rfl⟩ := put_ok_iff.1 h
  exact sameShape_store t key item

theorem sameShape_update {t t' : Table} {m : Matcher} {upd : Updater} {keyAttrs res : Item} {cond : Option Bytes}
    (h : t.update m upd keyAttrs cond = .ok (t', res)) : SameShape t t' := by
  obtain ⟨key, _, _, _, _, rfl⟩ := update_ok_iff.1 h
  exact sameShape_store t key res

/-- the requests one after the other; `true` for an applied request, `false` for any error -/
def puts (m : Matcher) (c : Bytes) : Table → List Item → Table × List Bool
  | t, [] => (t, [])
  | t, it :: rest =>
    match t.put m it (some c) with
    | .ok t' => let r := puts m c t' rest; (r.1, true :: r.2)
    | .error _ => let r := puts m c t rest; (r.1, false :: r.2)

theorem puts_all_refused (m : Matcher) (c : Bytes) (hc : c ≠ []) (key : Bytes) :
    ∀ (its : List Item) (t : Table),
      (∀ it ∈ its, Key.getKey t.schema t.attrs it = .ok key) →
      m .cond c (t.getItem key) = .ok false →
      puts m c t its = (t, its.map fun _ => false)
  | [], t, _, _ => rfl
  | it :: rest, t, hk, hf => by
    have h1 := put_refused (item := it) hc (hk it (List.mem_cons_self ..)) hf
    simp only [puts, h1, List.map]
    rw [puts_all_refused m c hc key rest t (fun i hi => hk i (List.mem_cons_of_mem _ hi)) hf]

/-- **first writer wins**, from the two verdicts that matter: the condition holds of the empty item (nothing stored) and
    fails on the first request's item.  `C05Lit` needs this form: `hm` of `first_put_wins` is false of the built-in
    interpreter. -/
theorem first_put_wins' (m : Matcher) (c : Bytes) (hc : c ≠ []) (t : Table)
    (key : Bytes) (first : Item) (rest : List Item)
    (hm0 : m .cond c [] = .ok true) (hm1 : m .cond c first = .ok false)
    (hk : ∀ it ∈ first :: rest, Key.getKey t.schema t.attrs it = .ok key)
    (hv : t.validateIndexKeys first = true)
    (habs : abs t key = none) :
    (puts m c t (first :: rest)).2 = true :: rest.map (fun _ => false) ∧
    abs (puts m c t (first :: rest)).1 key = some first ∧
    ∀ k, k ≠ key → abs (puts m c t (first :: rest)).1 k = abs t k := by
  have ⟨hself, hother⟩ := of_update (abs_store t key first)
  have h1 : t.put m first (some c) = .ok (t.store key first) :=
    put_ok_iff.2 ⟨key, hk first (List.mem_cons_self ..),
      (checkCondition_ok_iff m hc _).2 (by rw [getItem_eq_abs, habs]; exact hm0), hv, rfl⟩
  -- the table it answers builds the same key strings and holds `first` under the key, on which the condition fails
  have hrest := puts_all_refused m c hc key rest (t.store key first)
    (fun it hi => by rw [store_schema, store_attrs]; exact hk it (List.mem_cons_of_mem _ hi))
    (by rw [getItem_eq_abs, hself]; exact hm1)
  simp only [puts, h1, hrest]
  exact ⟨trivial, hself, hother⟩

/-- **C05, first writer wins**: conditional puts `first :: rest` of one key (`hk`) that `t` does not hold (`habs`),
    `first` with valid index keys (`hv`), the condition holding exactly of items that lack the hash attribute (`hm`):
    the first is applied, no later one (`false` records any error), the key ends with `first`, no other key moves. -/
theorem first_put_wins (m : Matcher) (c : Bytes) (hc : c ≠ []) (t : Table) (hT : TableInv t) (hsec : t.schema.secondary = false)
    (hm : ∀ stored, m .cond c stored = .ok (!(ahas t.schema.hash stored)))
    (key : Bytes) (first : Item) (rest : List Item)
    (hk : ∀ it ∈ first :: rest, Key.getKey t.schema t.attrs it = .ok key)
    (hv : t.validateIndexKeys first = true)
    (habs : abs t key = none) :
    (puts m c t (first :: rest)).2 = true :: rest.map (fun _ => false) ∧
    abs (puts m c t (first :: rest)).1 key = some first ∧
    ∀ k, k ≠ key → abs (puts m c t (first :: rest)).1 k = abs t k :=
  first_put_wins' m c hc t key first rest (by rw [hm]; rfl)
    (by rw [hm, Key.has_hash_of_getKey hsec (hk first (List.mem_cons_self ..))]; rfl) hk hv habs

def updates (m : Matcher) (upd : Updater) (keyAttrs : Item) : Nat → Table → Option Table
  | 0, t => some t
  | n + 1, t =>
    match t.update m upd keyAttrs none with
    | .ok (t', _) => updates m upd keyAttrs n t'
    | .error _ => none

def iter (upd : Updater) : Nat → Item → Option Item
  | 0, it => some it
  | n + 1, it => match upd it with | .ok it' => iter upd n it' | .error _ => none

theorem updates_succ {m : Matcher} {upd : Updater} {keyAttrs : Item} {key : Bytes} {n : Nat} {t t' : Table}
    (hk : Key.getKey t.schema t.attrs keyAttrs = .ok key) (h : updates m upd keyAttrs (n + 1) t = some t') :
    ∃ res, upd ((abs t key).getD keyAttrs) = .ok res ∧ updates m upd keyAttrs n (t.store key res) = some t' := by
  rw [updates] at h
  split at h
  · next t1 res hu =>
    obtain ⟨key', hk', _, hupd, _, rfl⟩ := update_ok_iff.1 hu
    cases hk.symm.trans hk'
    exact ⟨res, hupd, h⟩
  · cases h

/-- `updates_compose` for any table: the invariant plays no part -/
theorem updates_compose' {m : Matcher} {upd : Updater} {keyAttrs : Item} {key : Bytes} {n : Nat} {t t' : Table}
    (hk : Key.getKey t.schema t.attrs keyAttrs = .ok key) (h : updates m upd keyAttrs (n + 1) t = some t') :
    (∃ res, iter upd (n + 1) ((abs t key).getD keyAttrs) = some res ∧ abs t' key = some res) ∧
    ∀ k, k ≠ key → abs t' k = abs t k := by
  induction n generalizing t with
  | zero =>
    obtain ⟨res, hu, h1⟩ := updates_succ hk h
    cases h1
    exact ⟨⟨res, by rw [iter, hu]; rfl, (of_update (abs_store t key res)).1⟩, (of_update (abs_store t key res)).2⟩
  | succ n ih =>
    obtain ⟨res, hu, h1⟩ := updates_succ hk h
    have ⟨hs, ho⟩ := of_update (abs_store t key res)
    -- the remaining updates start from a table that builds the same key string and holds `res` under it
    obtain ⟨⟨r, hit, hst⟩, hoth⟩ := ih (t := t.store key res) (by rw [store_schema, store_attrs]; exact hk) h1
    rw [hs] at hit
    exact ⟨⟨r, by rw [iter, hu]; exact hit, hst⟩, fun k hne => (hoth k hne).trans (ho k hne)⟩

/-- **C05, no update is lost**: if `n + 1` unconditional updates of one key all go through, the key ends with the
    updater applied `n + 1` times to what was stored before (the key attributes when nothing was); no other key moved -/
theorem updates_compose (m : Matcher) (upd : Updater) (keyAttrs : Item) (key : Bytes) :
    ∀ (n : Nat) (t t' : Table), TableInv t → Key.getKey t.schema t.attrs keyAttrs = .ok key →
      updates m upd keyAttrs (n + 1) t = some t' →
      (∃ res, iter upd (n + 1) ((abs t key).getD keyAttrs) = some res ∧ abs t' key = some res) ∧
      ∀ k, k ≠ key → abs t' k = abs t k :=
  fun _ _ _ _ => updates_compose'

/-- non-vacuity: three creations of key "a", one after the other, on an empty table; the matcher answers as
    `attribute_not_exists(h)` would -/
example :
    let m : Matcher := fun _ _ item => .ok (!(ahas [104] item))
    let t : Table := { name := [116], schema := { hash := [104] }, attrs := [([104], [83])] }
    (puts m [99] t [[([104], .s [97]), ([118], .s [49])], [([104], .s [97]), ([118], .s [50])], [([104], .s [97])]]).2
      = [true, false, false] := by decide +kernel

/-- non-vacuity: an updater that appends the digit `1` to `n` (a unary stand-in for `ADD n :one`), three times on an
    absent key -/
example :
    let upd : Updater := fun item =>
      match alookup [110] item with
      | some (.n x) => .ok (ainsert [110] (.n (x ++ [49])) item)
      | _ => .ok (ainsert [110] (.n [49]) item)
    let t : Table := { name := [116], schema := { hash := [104] }, attrs := [([104], [83])] }
    (((updates (fun _ _ _ => .ok true) upd [([104], .s [97])] 3 t).map fun t' => alookup [110] (t'.getItem [97]))
      == some (some (.n [49, 49, 49]))) = true := by decide +kernel

end Minidyn.Props.C05Seq

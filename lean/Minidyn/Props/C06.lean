/-
  C06 — condition expressions evaluate per DynamoDB semantics.  The theorems are about single steps of the evaluator
  (`evalInfix`, `callFn`, one `indexAccessor.Get`), not about whole expressions: the evaluator as a whole is compared
  with `tools/spec.py` by the correspondence check and the judges only, and the deviations known are the open KF-C06-*.
  Binding strength is read off the tables regenerated from parser.go (`prec_order`).  Across types, `cross_type_*` are
  stated for a number against a string only, and the ordering one for `<` only.  `accessor_into_scalar` is stated for
  a string only and is the step below the root: a path whose root attribute is a scalar is an error
  (`evalIndexPositions`, KF-C06-root-scalar-path).  That evaluation cannot modify the item needs no theorem:
  `Interp.langMatch` returns a `Bool` and takes no state.
-/
import Minidyn.Model.Interp
import Minidyn.Generated.Tables
import Minidyn.Tie.Tables
namespace Minidyn.Props.C06
open Minidyn.Eval

def precOf (name : String) : Nat := (Tie.lookupS name Generated.precedences).getD 1

/-- **C06, binding strength**, on the tables regenerated from parser.go: every comparator, BETWEEN and IN bind tighter
    than NOT (the precedence `parsePrefixExpression` hands to `parseExpression`; last conjunct: there is such a call),
    NOT tighter than AND, AND than OR -/
theorem prec_order :
    (["=", "<>", "<", "<=", ">", ">=", "BETWEEN", "IN"].all fun op =>
        Generated.parsePrefixExpressionPrec.all fun notPrec => decide (precOf op > notPrec)) = true ∧
    (Generated.parsePrefixExpressionPrec.all fun notPrec => decide (notPrec > precOf "AND")) = true ∧
    precOf "AND" > precOf "OR" ∧ precOf "OR" > 1 ∧ Generated.parsePrefixExpressionPrec ≠ [] := by
  decide +kernel

/-- the same order in the model's parser (that `Parser.prec` is the generated table: `Tie.precedences_tie`) -/
theorem model_prec_order :
    Parser.prec .eq > Parser.pNot ∧ Parser.prec .lt > Parser.pNot ∧ Parser.prec .between > Parser.pNot ∧
    Parser.prec .in_ > Parser.pNot ∧ Parser.pNot > Parser.prec .and ∧ Parser.prec .and > Parser.prec .or ∧
    Parser.prec .or > Parser.pLowest := by decide

theorem undefined_comparable : isComparable Obj.undefined = true := by decide
theorem undefined_isUndefined : Obj.isUndefined Obj.undefined = true := rfl

theorem evalInfix_comparable (op : Tok) {l r : Obj} (hl : isComparable l = true) (hr : isComparable r = true) :
    evalInfix op l r = evalComparable op l r := by
  unfold evalInfix; simp only [hl, hr, Bool.and_self, if_true]

theorem missing_cmp (op : Tok) (r : Obj) (h : isComparable r = true) :
    evalInfix op Obj.undefined r = .ok (evalNullInfix op Obj.undefined r) := by
  rw [evalInfix_comparable op undefined_comparable h]; rfl

theorem missing_eq_false (r : Obj) (h : isComparable r = true) :
    evalInfix .eq Obj.undefined r = .ok (.bool false) := by
  rw [missing_cmp _ _ h]; simp [evalNullInfix, undefined_isUndefined, Eval.bool]

theorem missing_neq_true (r : Obj) (h : isComparable r = true) :
    evalInfix .neq Obj.undefined r = .ok (.bool true) := by
  rw [missing_cmp _ _ h]; simp [evalNullInfix, undefined_isUndefined, Eval.bool]

theorem missing_order_false (op : Tok) (hop : op = .lt ∨ op = .lte ∨ op = .gt ∨ op = .gte) (r : Obj)
    (h : isComparable r = true) : evalInfix op Obj.undefined r = .ok (.bool false) := by
  rw [missing_cmp _ _ h]
  rcases hop with rfl | rfl | rfl | rfl <;> rfl

theorem missing_right_eq_false (l : Obj) (h : isComparable l = true) :
    evalInfix .eq l Obj.undefined = .ok (.bool false) := by
  rw [evalInfix_comparable _ h undefined_comparable]
  simp [evalComparable, evalNullInfix, undefined_isUndefined, Eval.bool, pure, Except.pure]

theorem num_comparable (f : F64) : isComparable (.num f) = true := rfl
theorem str_comparable (s : Bytes) : isComparable (.str s) = true := rfl
theorem bin_comparable (s : Bytes) : isComparable (.bin s) = true := rfl

theorem cross_type_eq (f : F64) (s : Bytes) : evalInfix .eq (.num f) (.str s) = .ok (.bool false) :=
  evalInfix_comparable _ rfl rfl

theorem cross_type_neq (f : F64) (s : Bytes) : evalInfix .neq (.num f) (.str s) = .ok (.bool true) :=
  evalInfix_comparable _ rfl rfl

theorem cross_type_order_is_error (f : F64) (s : Bytes) : ∃ e, evalInfix .lt (.num f) (.str s) = .error e :=
  ⟨_, evalInfix_comparable _ rfl rfl⟩

theorem string_order (a b : Bytes) : evalInfix .lt (.str a) (.str b) = .ok (.bool (Bytes.cmp a b == .lt)) :=
  evalInfix_comparable _ rfl rfl

theorem binary_eq (a b : Bytes) : evalInfix .eq (.bin a) (.bin b) = .ok (.bool (Bytes.cmp a b == .eq)) :=
  evalInfix_comparable _ rfl rfl

theorem number_order (a b : F64) : evalInfix .lte (.num a) (.num b) = .ok (.bool (F64.cmp a b != .gt)) :=
  evalInfix_comparable _ rfl rfl

theorem null_attribute_exists : callFn fn_attribute_exists [.null false] = .ok (.bool true) := by rfl
theorem missing_attribute_not_exists : callFn fn_attribute_exists [Obj.undefined] = .ok (.bool false) := by rfl
theorem missing_attribute_not_exists' : callFn fn_attribute_not_exists [Obj.undefined] = .ok (.bool true) := by rfl
theorem missing_begins_with (x : Obj) : fnBeginsWith Obj.undefined x = .ok (.bool false) := rfl
theorem missing_contains (x : Obj) : fnContains Obj.undefined x = .ok (.bool false) := rfl
theorem null_attribute_type : fnAttributeType (.null false) (.str [78, 85, 76, 76]) = .ok (.bool true) := by rfl
theorem missing_attribute_type : fnAttributeType Obj.undefined (.str [78, 85, 76, 76]) = .ok (.bool false) := by rfl

theorem bool_not_comparable (b : Bool) : isComparable (.bool b) = false := rfl

theorem and_spec (a b : Bool) : evalInfix .and (.bool a) (.bool b) = .ok (.bool (a && b)) := by
  unfold evalInfix; simp only [bool_not_comparable, Bool.and_self, Bool.false_eq_true, if_false]; rfl

theorem or_spec (a b : Bool) : evalInfix .or (.bool a) (.bool b) = .ok (.bool (a || b)) := by
  unfold evalInfix; simp only [bool_not_comparable, Bool.and_self, Bool.false_eq_true, if_false]; rfl

/-- `hid`: NOT applied to a bare name (`NOT a`) is a syntax error of `Eval` -/
theorem not_spec (env : Env) (op : Token) (e : Expr) (b : Bool) (hid : identOf e = none)
    (h : eval env e = .ok (.bool b)) : eval env (.pre op e) = .ok (.bool (!b)) := by
  unfold eval; simp only [hid, Option.isSome_none, Bool.false_eq_true, if_false, h, bind, Except.bind]
  rfl

theorem listGet_out_of_range (xs : List Obj) (i : Int) (h : i < 0 ∨ xs.length ≤ i.toNat) :
    listGet xs i = Obj.undefined := by
  unfold listGet
  split
  · rfl
  · rename_i hneg; rw [List.getElem?_eq_none (h.resolve_left hneg)]

theorem accessor_missing_member (k : Bytes) (kvs : List (Bytes × Obj)) (h : alookup k kvs = none) :
    (Accessor.key k).get (.map kvs) = .ok Obj.undefined := by
  simp [Accessor.get, h, pure, Except.pure]

/-- for a string only; at the root of a path a scalar is an error instead (KF-C06-root-scalar-path) -/
theorem accessor_into_scalar (a : Accessor) (s : Bytes) : a.get (.str s) = .ok Obj.undefined := by
  cases a <;> rfl

/-- non-vacuity: `NOT a = :x AND b = :y OR c = :z` parses as ((NOT (a = :x)) AND (b = :y)) OR (c = :z) -/
example :
    (match Parser.parseCond [78, 79, 84, 32, 97, 32, 61, 32, 58, 120, 32, 65, 78, 68, 32, 98, 32, 61, 32, 58, 121, 32, 79, 82, 32, 99, 32, 61, 32, 58, 122] with
     | .ok (.inf o1 (.inf o2 (.pre _ (.inf o3 _ _)) (.inf o4 _ _)) (.inf o5 _ _)) =>
        o1.typ == .or && o2.typ == .and && o3.typ == .eq && o4.typ == .eq && o5.typ == .eq
     | _ => false) = true := by
  decide +kernel

end Minidyn.Props.C06

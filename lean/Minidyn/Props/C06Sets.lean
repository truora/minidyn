/-
  C06, sets — a string set or a binary set is a value without an order: the object `MapToObject` makes of it (in Go a
  `map[string]bool`, resp. a slice without duplicates put through `sortBinaries`; in the model sorted insertion without
  duplicates) depends only on which elements the attribute value lists, not on their order or multiplicity
  (`canonSet_congr`, `toObj_ss_congr`, `toObj_bs_congr`), so every comparison (`=`, `<>`, IN, `contains`, at any depth
  of a list or map) treats two such values alike.  Number sets are not covered, and the same does not hold of them:
  `nsetInsert` keeps whichever of `0` and `-0` was listed last.
-/
import Minidyn.Model.Value
import Minidyn.Lemmas.Order
namespace Minidyn.Props.C06Sets

def canonSet (xs : List Bytes) : List Bytes := xs.foldl (fun acc x => ssetInsert x acc) []

theorem beq_iff (a b : Bytes) : (a == b) = true ↔ a = b := by simp

theorem mem_insertUniq (x z : Bytes) (l : List Bytes) : z ∈ insertUniq Bytes.le (· == ·) x l ↔ z = x ∨ z ∈ l := by
  fun_induction insertUniq Bytes.le (· == ·) x l with
  | case1 => simp
  | case2 y ys h => rw [eq_of_beq h, List.mem_cons, ← or_assoc, or_self]
  | case3 y ys _ _ => exact List.mem_cons
  | case4 y ys _ _ ih => rw [List.mem_cons, ih, List.mem_cons, or_left_comm]

/-- strictly ascending in the bytewise order: sorted and without duplicates in one -/
def Strict (l : List Bytes) : Prop := l.Pairwise (· < ·)

theorem Strict.nodup {l : List Bytes} (h : Strict l) : l.Nodup :=
  List.Pairwise.imp (S := (· ≠ ·)) (fun hlt e => List.lt_irrefl _ (e ▸ hlt)) h

theorem strict_insertUniq (x : Bytes) (l : List Bytes) (h : Strict l) : Strict (insertUniq Bytes.le (· == ·) x l) := by
  fun_induction insertUniq Bytes.le (· == ·) x l with
  | case1 => exact List.pairwise_singleton ..
  | case2 y ys _ => exact h
  | case3 y ys h1 h2 =>
    -- `x` goes in front: it is below `y` and is not `y`, hence strictly below `y` and all that follows
    have hxy : x < y := (List.le_iff_lt_or_eq.1 (Bytes.le_iff.1 h2)).resolve_right fun e => h1 (e ▸ BEq.rfl)
    exact List.pairwise_cons.2
      ⟨fun z hz => (List.mem_cons.1 hz).elim (· ▸ hxy) fun hz => List.lt_trans hxy ((List.pairwise_cons.1 h).1 z hz), h⟩
  | case4 y ys h1 h2 ih =>
    -- `x` goes somewhere behind `y`, which is strictly below it
    have hyx : y < x := List.not_le.1 fun hle => h2 (Bytes.le_iff.2 hle)
    have hs := List.pairwise_cons.1 h
    exact List.pairwise_cons.2 ⟨fun z hz => ((mem_insertUniq x z ys).1 hz).elim (· ▸ hyx) (hs.1 z), ih hs.2⟩

theorem foldl_spec : ∀ (xs acc : List Bytes), Strict acc →
    Strict (xs.foldl (fun acc x => ssetInsert x acc) acc) ∧
    ∀ z, z ∈ xs.foldl (fun acc x => ssetInsert x acc) acc ↔ z ∈ acc ∨ z ∈ xs
  | [], acc, h => ⟨h, by simp⟩
  | x :: xs, acc, h => by
    simp only [List.foldl_cons]
    have ih := foldl_spec xs (ssetInsert x acc) (strict_insertUniq x acc h)
    refine ⟨ih.1, fun z => ?_⟩
    rw [ih.2 z]
    unfold ssetInsert
    rw [mem_insertUniq]
    simp only [List.mem_cons, or_assoc, or_left_comm]

theorem canonSet_strict (xs : List Bytes) : Strict (canonSet xs) := (foldl_spec xs [] .nil).1

theorem mem_canonSet (xs : List Bytes) (z : Bytes) : z ∈ canonSet xs ↔ z ∈ xs :=
  ((foldl_spec xs [] .nil).2 z).trans (or_iff_right List.not_mem_nil)

/-- **the stored form of a string set or a binary set depends on its elements only** (not so for a number set) -/
theorem canonSet_congr (xs ys : List Bytes) (h : ∀ z, z ∈ xs ↔ z ∈ ys) : canonSet xs = canonSet ys := by
  have hx := canonSet_strict xs
  have hy := canonSet_strict ys
  -- two strictly ascending lists with the same members are one list
  refine List.Perm.eq_of_pairwise (fun _ _ _ _ h1 h2 => absurd h2 (List.lt_asymm h1)) hx hy ?_
  rw [List.perm_ext_iff_of_nodup hx.nodup hy.nodup]
  intro z
  rw [mem_canonSet, mem_canonSet, h]

theorem canonSet_perm (xs ys : List Bytes) (h : xs.Perm ys) : canonSet xs = canonSet ys :=
  canonSet_congr xs ys (fun _ => h.mem_iff)

theorem toObj_ss_congr (xs ys : List Bytes) (h : ∀ z, z ∈ xs ↔ z ∈ ys) : (AV.ss xs).toObj = (AV.ss ys).toObj :=
  congrArg (fun l => some (Obj.sset l)) (canonSet_congr xs ys h)

theorem toObj_bs_congr (xs ys : List Bytes) (h : ∀ z, z ∈ xs ↔ z ∈ ys) : (AV.bs xs).toObj = (AV.bs ys).toObj :=
  -- `bsetAdd`, which `.bs` folds, unfolds to the same `insertUniq Bytes.le (· == ·)` as the `ssetInsert` of `canonSet`
  congrArg (fun l => some (Obj.bset l)) (canonSet_congr xs ys h)

example : (AV.bs [[98], [97], [98]]).toObj = (AV.bs [[97], [98]]).toObj :=
  toObj_bs_congr _ _ (by intro z; simp; intro h; exact Or.inr h)

end Minidyn.Props.C06Sets

namespace Minidyn.Props.Refine

theorem canonSet_eq_iff (xs ys : List Bytes) : C06Sets.canonSet xs = C06Sets.canonSet ys ↔ ∀ z, z ∈ xs ↔ z ∈ ys :=
  ⟨fun h z => by rw [← C06Sets.mem_canonSet xs z, ← C06Sets.mem_canonSet ys z, h], C06Sets.canonSet_congr xs ys⟩

end Minidyn.Props.Refine

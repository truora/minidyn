/-
  C07 — update expressions apply exactly their actions and nothing else.
  The frame half is a theorem about the whole pipeline (`evalUpdate` followed by `Env.apply`: `update_frame`; at
  `Language.Update`: `langUpdate_frame`): an attribute of the stored item changes only when it is the root of the
  left-hand side of one of the actions.  "Reads the pre-update item" has no theorem about the update: `evalRights_pre`
  is about the first pass `evalRights` alone (see there, and the swap example at the end).  "Targeted attributes receive
  the specified values" is stated for top-level targets (`set_store`, `remove_store`, `add_number`, `add_to_missing`,
  `delete_string`) and for one accessor step (`setIn_key_lookup`, `removeIn_key_lookup`), not for a whole path.
  The model follows the open KF-C07-add-delete-nested-path (ADD and DELETE on a nested path do nothing: `env' = env` in
  `frame_evalAction`) and KF-C07-overlapping-paths (overlapping actions are applied in sequence, not rejected).
-/
import Minidyn.Model.Eval
import Minidyn.Model.Interp
import Minidyn.Lemmas.Assoc
import Minidyn.Lemmas.Except
namespace Minidyn
open Eval

namespace Env

theorem mark_aliases (e : Env) (n : Bytes) : (e.mark n).aliases = e.aliases := by
  unfold mark; split <;> rfl
theorem mark_store (e : Env) (n : Bytes) : (e.mark n).store = e.store := by
  unfold mark; split <;> rfl
theorem mem_mark (e : Env) (n k : Bytes) : k ∈ (e.mark n).modified ↔ k ∈ e.modified ∨ k = n := by
  unfold mark; split
  · rename_i h
    exact ⟨.inl, fun hk => hk.elim id fun hkn => hkn ▸ List.contains_iff_mem.1 h⟩
  · exact List.mem_append.trans (or_congr_right List.mem_singleton)
theorem mark_mem (e : Env) (n : Bytes) : n ∈ (e.mark n).modified := (mem_mark e n n).2 (.inr rfl)
theorem mark_mono (e : Env) (n k : Bytes) (h : k ∈ e.modified) : k ∈ (e.mark n).modified := (mem_mark e n k).2 (.inl h)

structure Frame (e e' : Env) (n : Bytes) : Prop where
  aliases : e'.aliases = e.aliases
  store : ∀ k, k ≠ n → alookup k e'.store = alookup k e.store
  modified : ∀ k, k ∈ e'.modified → k ∈ e.modified ∨ k = n

theorem Frame.refl (e : Env) (n : Bytes) : Frame e e n := ⟨rfl, fun _ _ => rfl, fun _ h => .inl h⟩

theorem Frame.trans {e e' e'' : Env} {n : Bytes} (h : Frame e e' n) (h' : Frame e' e'' n) : Frame e e'' n :=
  ⟨h'.aliases.trans h.aliases, fun k hk => (h'.store k hk).trans (h.store k hk),
   fun k hk => (h'.modified k hk).elim (h.modified k) .inr⟩

theorem frame_set (e : Env) (name : Bytes) (v : Obj) : Frame e (e.set name v) (e.resolveName name) :=
  ⟨mark_aliases _ _, fun k hk => by rw [set, mark_store]; exact alookup_ainsert_ne _ _ hk, fun k => (mem_mark _ _ k).1⟩

theorem frame_remove (e : Env) (name : Bytes) : Frame e (e.remove name) (e.resolveName name) := by
  simp only [remove]; split
  · exact ⟨mark_aliases _ _, fun k hk => by rw [mark_store]; exact alookup_aerase_ne _ hk, fun k => (mem_mark _ _ k).1⟩
  · exact .refl _ _

/-- the in-place write of ADD, DELETE and of a path below the root -/
theorem frame_markStore (e : Env) (n : Bytes) (s : List (Bytes × Obj))
    (hs : ∀ k, k ≠ n → alookup k s = alookup k e.store) : Frame e { e.mark n with store := s } n :=
  ⟨mark_aliases e n, hs, fun k => (mem_mark e n k).1⟩

theorem resolveName_congr {e e' : Env} (h : e'.aliases = e.aliases) (n : Bytes) :
    e'.resolveName n = e.resolveName n := by simp [resolveName, h]

end Env
open Env

theorem evalIndexPositions_root (env : Env) (e : Expr) : ∀ (ps : List Accessor) (root : Token) (o : Obj),
    evalIndexPositions env e = .ok (ps, root, o) → rootIdent e = some root := by
  fun_induction rootIdent e with
  | case1 t =>
    intro ps root o h
    obtain ⟨o', -, h⟩ := Except.of_bind_ok h
    split at h
    · cases h; rfl
    · cases h; rfl
    · split at h <;> cases h; rfl
  | case2 op left idx ih =>
    intro ps root o h
    obtain ⟨a, -, h⟩ := Except.of_bind_ok h
    obtain ⟨⟨rest, root', o'⟩, hr, h⟩ := Except.of_bind_ok h
    cases h
    exact ih _ _ _ hr
  | case3 e h1 h2 =>
    intro ps root o h
    rw [evalIndexPositions] at h
    · cases h
    · exact h1
    · exact h2

theorem frame_modifyPath (env env' : Env) (root : Token) (o : Obj) (ps : List Accessor)
    (f : Accessor → Obj → EvalM Obj) (h : modifyPath env root o ps f = .ok env') :
    Frame env env' (env.resolveName root.lit) := by
  unfold modifyPath at h
  cases ps with
  | nil => cases h
  | cons last inner =>
    obtain ⟨o', -, h⟩ := Except.of_bind_ok h
    dsimp only at h
    split at h <;> cases h
    exact frame_markStore _ _ _ fun k hk => (alookup_ainsert_ne _ _ hk).trans (congrArg _ (mark_store _ _))


def targetOf (env : Env) (left : Expr) : Option Bytes := (rootIdent left).map fun t => env.resolveName t.lit

theorem targetOf_congr {e e' : Env} (h : e'.aliases = e.aliases) (l : Expr) : targetOf e' l = targetOf e l := by
  simp only [targetOf, resolveName_congr h]

theorem frame_path {env env' : Env} {left : Expr} {r : List Accessor × Token × Obj} {f : Accessor → Obj → EvalM Obj}
    (hr : evalIndexPositions env left = .ok r) (h : modifyPath env r.2.1 r.2.2 r.1 f = .ok env') :
    ∃ n, targetOf env left = some n ∧ Frame env env' n :=
  ⟨_, by rw [targetOf, evalIndexPositions_root _ _ _ _ _ hr]; rfl, frame_modifyPath _ _ _ _ _ _ h⟩

theorem frame_evalAction (env env' : Env) (op : Tok) (left : Expr) (v : Obj)
    (h : evalAction env op left v = .ok env') :
    env' = env ∨ ∃ n, targetOf env left = some n ∧ Frame env env' n := by
  revert h
  fun_cases evalAction env op left v <;> intro h
  -- SET
  · obtain ⟨_, -, h⟩ := Except.of_bind_ok h
    cases h; exact .inr ⟨_, rfl, frame_set _ _ _⟩
  · obtain ⟨r, hr, h⟩ := Except.of_bind_ok h
    exact .inr (frame_path hr h)
  · cases h
  -- ADD
  · obtain ⟨o, -, h⟩ := Except.of_bind_ok h
    split at h
    · cases h; exact .inr ⟨_, rfl, frame_set _ _ _⟩
    · obtain ⟨o', -, h⟩ := Except.of_bind_ok h
      cases h
      exact .inr ⟨_, rfl, frame_markStore _ _ _ fun _ hk => alookup_ainsert_ne _ _ hk⟩
  · cases h; exact .inl rfl
  -- DELETE
  · rename_i t
    obtain ⟨o, -, h⟩ := Except.of_bind_ok h
    split at h
    · cases h; exact .inl rfl
    · obtain ⟨o', -, h⟩ := Except.of_bind_ok h
      cases h
      have h1 : Frame env { env.markModified t.lit with store := ainsert (env.resolveName t.lit) o' env.store } _ :=
        frame_markStore _ _ _ fun _ hk => alookup_ainsert_ne _ _ hk
      refine .inr ⟨_, rfl, ?_⟩
      split
      · -- the set became empty: the attribute is removed as well
        exact h1.trans (resolveName_congr h1.aliases t.lit ▸ frame_remove _ t.lit)
      · exact h1
  · cases h; exact .inl rfl
  -- REMOVE
  · obtain ⟨_, -, h⟩ := Except.of_bind_ok h
    cases h; exact .inr ⟨_, rfl, frame_remove _ _⟩
  · obtain ⟨r, hr, h⟩ := Except.of_bind_ok h
    obtain ⟨c, -, h⟩ := Except.of_bind_ok h
    split at h
    · cases h; exact .inl rfl
    · exact .inr (frame_path hr h)
  · cases h
  · cases h

/-- `targetOf` is taken in the first environment for all the actions: the aliases stay (first conjunct), so it is the
    same in every later one -/
theorem frame_applyActions (env env' : Env) (vs : List (Tok × Expr × Obj)) (h : applyActions env vs = .ok env') :
    env'.aliases = env.aliases ∧ ∀ k, (∀ r ∈ vs, targetOf env r.2.1 ≠ some k) →
      alookup k env'.store = alookup k env.store ∧ (k ∈ env'.modified → k ∈ env.modified) := by
  induction vs generalizing env with
  | nil => cases h; exact ⟨rfl, fun _ _ => ⟨rfl, id⟩⟩
  | cons a rest ih =>
    obtain ⟨env1, h1, h⟩ := Except.of_bind_ok h
    obtain ⟨ha, hrest⟩ := ih env1 h
    rcases frame_evalAction _ _ _ _ _ h1 with rfl | ⟨n, hn, hf⟩
    · exact ⟨ha, fun k hk => hrest k fun r hr => hk r (List.mem_cons_of_mem _ hr)⟩
    · refine ⟨ha.trans hf.aliases, fun k hk => ?_⟩
      have hkn : k ≠ n := fun e => hk a List.mem_cons_self (e ▸ hn)
      obtain ⟨hs, hm⟩ := hrest k fun r hr => targetOf_congr hf.aliases _ ▸ hk r (List.mem_cons_of_mem _ hr)
      exact ⟨hs.trans (hf.store k hkn), fun hk' => (hf.modified k (hm hk')).resolve_right hkn⟩


inductive AllRel {α β : Type} (R : α → β → Prop) : List α → List β → Prop
  | nil : AllRel R [] []
  | cons {a b as bs} : R a b → AllRel R as bs → AllRel R (a :: as) (b :: bs)

theorem AllRel.exists_left {α β : Type} {R : α → β → Prop} {as : List α} {bs : List β} (h : AllRel R as bs) :
    ∀ b ∈ bs, ∃ a ∈ as, R a b := by
  induction h with
  | nil => exact fun _ hb => nomatch hb
  | cons hd _ ih =>
    intro b hb
    rcases List.mem_cons.1 hb with rfl | hb
    · exact ⟨_, List.mem_cons_self, hd⟩
    · obtain ⟨a, ha, hr⟩ := ih b hb
      exact ⟨a, List.mem_cons_of_mem _ ha, hr⟩

/-- About the first pass `evalRights` alone, which runs no action: each value it hands on is the right-hand side
    evaluated in its one environment `env` (REMOVE: the undefined value).  That this is the environment the update
    started from is the definition of `evalUpdate`, not a theorem. -/
theorem evalRights_pre (env : Env) (acts : List Expr) (vs : List (Tok × Expr × Obj))
    (h : evalRights env acts = .ok vs) :
    AllRel (fun a r => ∃ op left right, a = Expr.action op left right ∧ r.1 = op.typ ∧ r.2.1 = left ∧
      (if op.typ == .remove then r.2.2 = Obj.undefined else evalUpdateOperand env right = .ok r.2.2)) acts vs := by
  induction acts generalizing vs with
  | nil => cases h; exact .nil
  | cons a rest ih =>
    cases a with
    | action op left right =>
      rw [evalRights] at h
      split at h <;> rename_i hr
      all_goals
        obtain ⟨v, hv, h⟩ := Except.of_bind_ok h
        obtain ⟨vs', hvs, h⟩ := Except.of_bind_ok h
        cases h
        refine .cons ⟨op, left, right, rfl, rfl, rfl, ?_⟩ (ih _ hvs)
        simp only [hr, ↓reduceIte]
      · cases hv; rfl
      · exact hv
    | _ => cases h

/-- the item attribute a marked store name is written to: the store name itself (the names were
    resolved through the alias table when the expression named them) -/
def Env.itemName (_e : Env) (k : Bytes) : Bytes := k

/-- **frame at the item**: an attribute that no marked name writes to keeps its value -/
theorem apply_untouched (e : Env) (item : Item) (excl : List Bytes) (name : Bytes)
    (h : ∀ k ∈ e.modified, e.itemName k ≠ name) : alookup name (e.apply item excl) = alookup name item := by
  unfold Env.apply
  generalize e.modified = ms at h
  induction ms generalizing item with
  | nil => rfl
  | cons m rest ih =>
    rw [List.foldl_cons, ih _ fun k hk => h k (List.mem_cons_of_mem _ hk)]
    have hm : name ≠ m := Ne.symm (h m List.mem_cons_self)
    split
    · rfl
    · split
      · exact alookup_aerase_ne _ hm
      · exact alookup_ainsert_ne _ _ hm

theorem apply_nothing_marked (e : Env) (item : Item) (excl : List Bytes) (h : e.modified = []) :
    e.apply item excl = item := by simp [Env.apply, h]

theorem compact_aliases (e : Env) : e.compact.aliases = e.aliases := rfl

/-- **C07, frame**: after a whole update expression, an item attribute changes only if
    one of the actions has it (through the alias table) as the root of its left-hand
    side.  `env` is the environment the item was loaded into: nothing is marked. -/
theorem update_frame (env env' : Env) (tok : Token) (acts : List Expr) (item : Item) (excl : List Bytes)
    (name : Bytes) (hclean : env.modified = [])
    (h : evalUpdate env (.update tok acts) = .ok env')
    (hname : ∀ a ∈ acts, ∀ op left right, a = Expr.action op left right →
      ∀ n, targetOf env left = some n → env.itemName n ≠ name) :
    alookup name (env'.apply item excl) = alookup name item := by
  simp only [evalUpdate] at h
  split at h
  · cases h
  · obtain ⟨vs, hvs, h⟩ := Except.of_bind_ok h
    obtain ⟨env1, h1, h⟩ := Except.of_bind_ok h
    cases h
    -- a marked `k` written to `name` would be no action's target, so marked from the start
    refine apply_untouched _ _ _ _ fun k hk hkn => ?_
    have hk0 := ((frame_applyActions _ _ _ h1).2 k fun r hr hrk => ?_).2 hk
    · rw [hclean] at hk0; cases hk0
    · obtain ⟨a, ha, op, left, right, rfl, -, hl, -⟩ := (evalRights_pre _ _ _ hvs).exists_left r hr
      exact hname _ ha op _ right (hl ▸ rfl) k hrk hkn

theorem set_store (e : Env) (name : Bytes) (v : Obj) :
    alookup (e.resolveName name) (e.set name v).store = some v := by
  simp [Env.set, mark_store, alookup_ainsert_self]

theorem remove_store (e : Env) (name : Bytes) :
    alookup (e.resolveName name) (e.remove name).store = none := by
  simp only [Env.remove]
  split
  · simp [mark_store, alookup_aerase_self]
  · rename_i h; simpa [ahas] using h

theorem apply_single_set (e : Env) (item : Item) (k : Bytes) (o : Obj) (hm : e.modified = [k])
    (hs : alookup k e.store = some o) :
    alookup (e.itemName k) (e.apply item []) = some o.toAV := by
  simp only [Env.apply, hm, List.foldl_cons, List.foldl_nil, List.contains_nil, Bool.false_eq_true, if_false, hs, Env.itemName]
  exact alookup_ainsert_self _ _ _

theorem apply_single_remove (e : Env) (item : Item) (k : Bytes) (hm : e.modified = [k])
    (hs : alookup k e.store = none) :
    alookup (e.itemName k) (e.apply item []) = none := by
  simp only [Env.apply, hm, List.foldl_cons, List.foldl_nil, List.contains_nil, Bool.false_eq_true, if_false, hs, Env.itemName]
  exact alookup_aerase_self _ _

theorem setIn_key_lookup (k : Bytes) (v : Obj) (kvs kvs' : List (Bytes × Obj))
    (h : (Accessor.key k).setIn v (.map kvs) = .ok (.map kvs')) :
    kvs' = sortAssoc (ainsert k v kvs) := by
  simp only [Accessor.setIn, pure, Except.pure] at h
  cases h; rfl

theorem removeIn_key_lookup (k : Bytes) (kvs : List (Bytes × Obj)) :
    (Accessor.key k).removeIn (.map kvs) = .ok (.map (aerase k kvs)) := rfl

theorem removeIn_pos_out_of_range (i : Int) (xs : List Obj) (h : i < 0 ∨ xs.length ≤ i.toNat) :
    (Accessor.pos i).removeIn (.list xs) = .ok (.list xs) := by
  simp only [Accessor.removeIn]
  rcases h with h | h
  · have : ¬ (0 ≤ i) := by omega
    simp [this, pure, Except.pure]
  · have : ¬ (i.toNat < xs.length) := by omega
    simp [this, pure, Except.pure]

theorem add_number (a b : F64) : addTo (.num a) (.num b) = .ok (.num (F64.add a b)) := rfl
theorem add_to_missing (env : Env) (t : Token) (v : Obj) (h : evalIdentifier t env true = .ok Obj.undefined) :
    evalAction env .add (.ident t) v = .ok (env.set t.lit v) := by
  rw [evalAction, h]; rfl
theorem delete_from_missing (env : Env) (t : Token) (v : Obj) (h : evalIdentifier t env true = .ok Obj.undefined) :
    evalAction env .delete (.ident t) v = .ok env := by
  rw [evalAction, h]; rfl
theorem delete_string (xs : List Bytes) (s : Bytes) :
    deleteFrom (.sset xs) (.str s) = .ok (.sset (xs.filter (· != s))) := rfl

theorem load_modified (kvs : List (Bytes × AV)) (e e' : Env) (h : e.load kvs = some e') :
    e'.modified = e.modified ∧ e'.aliases = e.aliases := by
  induction kvs generalizing e with
  | nil => cases h; exact ⟨rfl, rfl⟩
  | cons p rest ih =>
    obtain ⟨o, -, h⟩ := Option.bind_eq_some_iff.1 h
    exact ih { e with store := ainsert p.1 o e.store } h

theorem mkEnv_clean (names : List (Bytes × Bytes)) (item values : Item) (env : Env) (h : Interp.mkEnv names item values = some env) :
    env.modified = [] ∧ env.aliases = names := by
  obtain ⟨e1, h1, h2⟩ := Option.bind_eq_some_iff.1 h
  have a := load_modified item _ e1 h1
  have b := load_modified values e1 env h2
  exact ⟨b.1.trans a.1, b.2.trans a.2⟩

/-- **C07 at the interpreter**: after `Language.Update`, an attribute of the item changes only if it is (through
    ExpressionAttributeNames) the root of the left-hand side of one of the actions of the expression -/
theorem langUpdate_frame (expr : Bytes) (item item' : Item) (names : List (Bytes × Bytes)) (values : Item) (name : Bytes)
    (h : Interp.langUpdate expr item names values = .ok item')
    (hname : ∀ tok acts env, Parser.parseUpdate expr = .ok (.update tok acts) → Interp.mkEnv names item values = some env →
      ∀ a ∈ acts, ∀ op left right, a = Expr.action op left right → ∀ n, targetOf env left = some n → env.itemName n ≠ name) :
    alookup name item' = alookup name item := by
  unfold Interp.langUpdate at h
  split at h
  · cases h
  unfold Interp.langUpdateCore at h
  split at h
  · cases h
  · cases h
  rename_i e hp
  split at h
  · cases h
  rename_i env hm
  split at h
  · rename_i env' he
    cases h
    cases e with
    | update tok acts =>
      exact update_frame env env' tok acts item _ name (mkEnv_clean names item values env hm).1 he (hname tok acts env hp hm)
    | _ => cases he
  · cases h


/-! `SET a = b, b = a` on `a = 1`, `b = 2` swaps them: both right-hand sides read the values the update started from -/

def tkId (lit : Bytes) : Token := { typ := .ident, lit := lit }
def swapEnv : Env := { store := [([97], .num (F64.ofNat 1)), ([98], .num (F64.ofNat 2))] }
def swapUpdate : Expr := .update (tkId [83, 69, 84])
  [.action { typ := .set, lit := [61] } (.ident (tkId [97])) (.ident (tkId [98])),
   .action { typ := .set, lit := [61] } (.ident (tkId [98])) (.ident (tkId [97]))]

example : (match evalUpdate swapEnv swapUpdate with
    | .ok e => e.store.map (·.1) == [[97], [98]] && e.modified == [[97], [98]] &&
        (match e.store with
         | [(_, .num x), (_, .num y)] => F64.eq x (F64.ofNat 2) && F64.eq y (F64.ofNat 1)
         | _ => false)
    | .error _ => false) = true := by decide +kernel

end Minidyn

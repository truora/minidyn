/-
  Minidyn.Props.C08 — a request that fails leaves no trace.

  A PutItem, UpdateItem, DeleteItem or UpdateTable of `Model.Client` that answers an error, or raises the documented
  panic of an interpreter error (`isFailure`), returns the client it was given (`*_fail_unchanged`); GetItem and Query
  never change it.  At table level a failing `put`/`update`/`delete` yields `Except.error`, which carries no table; the
  index-key check (`validateIndexKeys`) comes before the first write, which is what makes a write all-or-nothing across
  the base table and its indexes.  Not covered (KF-C08-batch-partial): BatchWriteItem applies its requests one by one
  and may fail after some were applied (`batchWrite_partial_trace`).
-/
import Minidyn.Lemmas.Client
namespace Minidyn.Props.C08
open Minidyn.Client

theorem put_fail_unchanged (c : Client) (t item cond ex) (h : isFailure (putItem c t item cond ex).2 = true) :
    (putItem c t item cond ex).1 = c := by
  rw [putItem_eq_write] at h ⊢; exact write_fail_unchanged (fun _ => rfl) h

theorem update_fail_unchanged (c : Client) (t key expr cond ex rf)
    (h : isFailure (updateItem c t key expr cond ex rf).2 = true) : (updateItem c t key expr cond ex rf).1 = c := by
  rw [updateItem_eq_write] at h ⊢; exact write_fail_unchanged (fun _ => rfl) h

theorem delete_fail_unchanged (c : Client) (t key cond ex ro)
    (h : isFailure (deleteItem c t key cond ex ro).2 = true) : (deleteItem c t key cond ex ro).1 = c := by
  rw [deleteItem_eq_write] at h ⊢; exact write_fail_unchanged (fun _ => by cases ro <;> rfl) h

theorem get_unchanged (c : Client) (t key) : (getItem c t key).1 = c := getItem_state c t key

theorem query_unchanged (c : Client) (t q ex) : (query c t q ex).1 = c := query_state c t q ex

/-- the all-or-nothing order of `Table.put`: an item whose index key has the wrong type is
    rejected before anything is written (the result carries no table) -/
theorem put_bad_index_key_rejected {t : Table} {m : Matcher} {item : Item} {key : Bytes}
    (hk : Key.getKey t.schema t.attrs item = .ok key) (hv : t.validateIndexKeys item = false) :
    t.put m item none = .error .validation := by
  simp [Table.put, hk, Table.checkCondition, hv, bind, Except.bind]

/-- KF-C08-batch-partial, on the model: a batch whose second request has no key has applied the
    first one when it returns the validation error -/
theorem batchWrite_partial_trace :
    let c0 : Client := (createTable { sdk := .v2 } { table := [116, 97, 98], key := { hash := ([104], [83]) } }).1
    let r := batchWrite c0 [([116, 97, 98], [.put [([104], .s [97])], .put [([120], .s [97])]])]
    (match r.2 with | .err .validation _ => true | _ => false) = true ∧
    ((alookup [116, 97, 98] r.1.tables).map (·.sortedKeys)) = some [[97]] := by
  decide +kernel

/-- **C08** for UpdateTable: a failure — unknown table, a definition that re-types a key attribute in use, an index that
    cannot be created or deleted at any position of the list of changes — leaves the client as it was: no definition,
    no index of the request remains -/
theorem updateTable_fail_unchanged (c : Client) (name : Bytes) (chs : List IndexChange)
    (h : isFailure (updateTable c name chs).2 = true) : (updateTable c name chs).1 = c := by
  rcases updateTable_cases c name chs with ⟨_, _, _, _, _, _, he⟩ | ⟨_, he⟩ <;> rw [he] at h ⊢
  cases h

/-- non-vacuity: the second change fails, the index created by the first one is not there afterwards -/
example :
    let c0 : Client := (createTable { sdk := .v2 } { table := [116], key := { hash := ([104], [83]) }, payPerRequest := true }).1
    let r := updateTable c0 [116] [.create { name := [105], key := { hash := ([103], [83]) } }, .delete [122]]
    isFailure r.2 = true ∧ ((alookup [116] r.1.tables).map (·.indexes.length)) = some 0 := by decide +kernel

end Minidyn.Props.C08

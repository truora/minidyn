/-
  C09 — the expression front end is total and strict.  The theorems are the "never loops" part: about the shape of the
  recursion, which the model mirrors function by function (trusted).  The lexer is one structural pass, at most one
  token per byte (`lex_length`).  The mutual recursion of `parseExpression` and its helpers is modelled with a depth
  budget; by `allGood` no function hands back more tokens than it got and `5·n + rank` is enough for `n` tokens, so the
  model's "out of fuel" is unreachable: `parseCond`/`parseUpdate` answer an expression or a syntax error for every byte
  string (`front_end_total`, `front_end_total_update`).  Alias expansion (`#a → #b → #a …`) ends for every alias table:
  from the fuel `aliases.length + 1` on the result is the same (`get_expansion_total`).  "Never crashes" and the
  strictness clauses have no theorem; the correspondence check on generated, near-miss and garbage strings covers them.
-/
import Minidyn.Model.Parser
import Minidyn.Model.Env
import Minidyn.Lemmas.Assoc
namespace Minidyn.Props.C09
open Minidyn.Parser

theorem flush_length (cur : Bytes) : (Lexer.flush cur).length ≤ 1 := by
  unfold Lexer.flush; split <;> simp

theorem flush_nil : Lexer.flush [] = [] := rfl

theorem pendTok_length (p : Nat) : (Lexer.pendTok p).length ≤ 1 := by
  unfold Lexer.pendTok; split
  · simp
  · split <;> simp

theorem pendTok_zero : Lexer.pendTok 0 = [] := by decide

theorem length_ite_le {α : Type} {c : Prop} [Decidable c] {a b : List α} {n : Nat}
    (ha : a.length ≤ n) (hb : b.length ≤ n) : (if c then a else b).length ≤ n := by
  split <;> assumption

/-- Every byte pays for one token; the identifier being read and the pending `<`/`>` are owed
    the token they will still produce. -/
theorem lexAux_length (s : Bytes) : ∀ (cur : Bytes) (pend : Nat),
    (Lexer.lexAux s cur pend).length ≤ s.length + (Lexer.flush cur).length + (Lexer.pendTok pend).length := by
  induction s with
  | nil => intro cur pend; rw [Lexer.lexAux, List.length_append, List.length_nil, Nat.zero_add]; exact Nat.le_refl _
  | cons c cs ih =>
    intro cur pend
    -- what the recursive calls of the step yield, by `flush [] = []` and `pendTok 0 = []`
    have h0 : (Lexer.lexAux cs [] 0).length ≤ cs.length := ih [] 0
    have h1 (t : Token) : (t :: Lexer.lexAux cs [] 0).length ≤ cs.length + 1 := Nat.succ_le_succ h0
    have hc : (Lexer.lexAux cs (c :: cur) 0).length ≤ cs.length + 1 :=
      Nat.le_trans (ih (c :: cur) 0) (Nat.add_le_add_left (flush_length _) _)
    have hp : (Lexer.lexAux cs [] c).length ≤ cs.length + 1 :=
      Nat.le_trans (ih [] c) (Nat.add_le_add_left (pendTok_length _) _)
    rw [Lexer.lexAux, List.length_cons]
    -- the tests play no part: the bound holds in every branch
    refine length_ite_le ?_ (length_ite_le ?_ (length_ite_le ?_ ?_))
    iterate 3 exact Nat.le_trans (h1 _) (Nat.le_trans (Nat.le_add_right _ _) (Nat.le_add_right _ _))
    rw [List.length_append, Nat.add_comm]
    refine Nat.add_le_add_right (length_ite_le (Nat.le_trans hc (Nat.le_add_right _ _)) ?_) _
    rw [List.length_append, Nat.add_comm]
    refine Nat.add_le_add_right (length_ite_le (Nat.le_succ_of_le h0) ?_) _
    cases Lexer.single c with
    | some t => exact h1 _
    | none => exact length_ite_le hp (h1 _)

/-- **C09, the lexer is total and linear**: a structural recursion on the bytes (no fuel), at most one token per byte -/
theorem lex_length (s : Bytes) : (Lexer.lex s).length ≤ s.length := lexAux_length s [] 0

theorem next_length (ts : List Token) : (next ts).length = ts.length - 1 := List.length_tail

theorem cur_pos (ts : List Token) (h : (cur ts).typ ≠ .eof) : 1 ≤ ts.length := by
  cases ts with
  | nil => simp [cur, eofTok] at h
  | cons _ _ => simp

theorem prefixFn_ne_eof (m : PMode) (t : Tok) (x : PrefixFn) (h : prefixFn m t = some x) : t ≠ .eof := by
  intro he; subst he; cases m <;> simp [prefixFn] at h

/-- what is shown of every parsing function, `r` being its result from the state `s` with `fuel` -/
structure Good {α : Type} (r : PR α) (s : PS) (bound fuel : Nat) : Prop where
  mono : ∀ a s', r = .ok a s' → s'.ts.length ≤ s.ts.length
  enough : bound < fuel → r ≠ .outOfFuel

theorem Good.err {α : Type} {s : PS} {b f : Nat} : Good (PR.err : PR α) s b f :=
  ⟨fun _ _ h => (nomatch h), fun _ h => (nomatch h)⟩

theorem Good.ok {α : Type} {a : α} {s s' : PS} {b f : Nat} (h : s'.ts.length ≤ s.ts.length) :
    Good (PR.ok a s') s b f :=
  ⟨fun _ _ h' => by (cases h'; exact h), fun _ h' => nomatch h'⟩

theorem Good.lift {α : Type} {r : PR α} {s0 s : PS} {b0 b f0 f : Nat} (h : Good r s0 b0 f0)
    (hl : s0.ts.length ≤ s.ts.length) (hb : b < f → b0 < f0) : Good r s b f :=
  ⟨fun a s' hr => Nat.le_trans (h.mono a s' hr) hl, fun hbf => h.enough (hb hbf)⟩

theorem Good.ite {α : Type} {c : Prop} [Decidable c] {a b : PR α} {s : PS} {bd f : Nat}
    (ha : c → Good a s bd f) (hb : ¬c → Good b s bd f) : Good (if c then a else b) s bd f := by
  split
  · exact ha ‹_›
  · exact hb ‹_›

/-- Sequencing.  `r` with `hr` and not the `casesOn` itself: the parser writes the sequence as a `match`, see `bindE`,
    `bindL` and, for a `match` that is neither, `actL_step`. -/
theorem Good.seq {α β : Type} {r1 : PR α} {s1 s : PS} {b1 b f1 f : Nat} {k : α → PS → PR β} {r : PR β}
    (h1 : Good r1 s1 b1 f1) (hb : b < f → b1 < f1)
    (hk : ∀ (a : α) (s' : PS), s'.ts.length ≤ s1.ts.length → Good (k a s') s b f)
    (hr : r = PR.casesOn r1 k .err .outOfFuel) : Good r s b f := by
  subst hr
  cases r1 with
  | ok a s' => exact hk a s' (h1.mono a s' rfl)
  | err => exact Good.err
  | outOfFuel => exact ⟨fun _ _ h => (nomatch h), fun hbf => absurd rfl (h1.enough (hb hbf))⟩

/- the `match` of the model on the result of a sub-call, once for each type of sub-call (the elaborator
   identifies two `match`es only when their discriminants have the same type) -/
theorem Good.bindE {β : Type} {r1 : PR Expr} {s1 s : PS} {b1 b f1 f : Nat} {k : Expr → PS → PR β}
    (h1 : Good r1 s1 b1 f1) (hb : b < f → b1 < f1)
    (hk : ∀ (a : Expr) (s' : PS), s'.ts.length ≤ s1.ts.length → Good (k a s') s b f) :
    Good (match r1 with
      | .ok a s' => k a s'
      | .err => .err
      | .outOfFuel => .outOfFuel) s b f := h1.seq hb hk (by cases r1 <;> rfl)

theorem Good.bindL {β : Type} {r1 : PR (List Expr)} {s1 s : PS} {b1 b f1 f : Nat} {k : List Expr → PS → PR β}
    (h1 : Good r1 s1 b1 f1) (hb : b < f → b1 < f1)
    (hk : ∀ (a : List Expr) (s' : PS), s'.ts.length ≤ s1.ts.length → Good (k a s') s b f) :
    Good (match r1 with
      | .ok a s' => k a s'
      | .err => .err
      | .outOfFuel => .outOfFuel) s b f := h1.seq hb hk (by cases r1 <;> rfl)

/-- the fuel each function needs for a state with `n` tokens left: five per token plus the
    rank of the function in the chains that do not consume a token
    (`parseAction → parseExpr → parseUpdateAction`, `parseExpr → infixLoop`,
    `parseArgs → argsLoop`) -/
def need (rank : Nat) (s : PS) : Nat := 5 * s.ts.length + rank

structure AllGood (m : PMode) (fuel : Nat) : Prop where
  expr : ∀ p s, Good (parseExpr m fuel p s) s (need 2 s) fuel
  infx : ∀ p l s, Good (infixLoop m fuel p l s) s (need 0 s) fuel
  args : ∀ s, Good (parseArgs m fuel s) s (need 4 s) fuel
  argsL : ∀ acc s, Good (argsLoop m fuel acc s) s (need 3 s) fuel
  upd : ∀ s, Good (parseUpdateAction m fuel s) s (need 1 s) fuel
  act : ∀ op s, Good (parseAction m fuel op s) s (need 3 s) fuel
  actL : ∀ op acc s, Good (actionsLoop m fuel op acc s) s (need 3 s) fuel

theorem good_zero {α : Type} (s : PS) (b : Nat) : Good (PR.outOfFuel : PR α) s b 0 :=
  ⟨fun _ _ h => (nomatch h), fun h => absurd h (Nat.not_lt_zero _)⟩

theorem allGood_zero (m : PMode) : AllGood m 0 :=
  ⟨fun _ _ => good_zero _ _, fun _ _ _ => good_zero _ _, fun _ => good_zero _ _, fun _ _ => good_zero _ _,
   fun _ => good_zero _ _, fun _ _ => good_zero _ _, fun _ _ _ => good_zero _ _⟩

theorem next_le (ts : List Token) : (next ts).length ≤ ts.length := by
  rw [next_length]; exact Nat.sub_le _ _

theorem next_lt {ts : List Token} (h : 1 ≤ ts.length) : (next ts).length < ts.length := by
  rw [next_length]; exact Nat.sub_lt h Nat.one_pos

/-- a token behind the current one: the tokens get fewer by stepping over the current one, and over both -/
theorem next_lt_of_peek {ts : List Token} (h : (peek ts).typ ≠ .eof) :
    (next ts).length < ts.length ∧ (next (next ts)).length < ts.length := by
  cases ts with
  | nil => simp [peek, eofTok] at h
  | cons _ t => cases t with
    | nil => simp [peek, eofTok] at h
    | cons _ _ => exact ⟨Nat.lt_succ_self _, Nat.lt_succ_of_lt (Nat.lt_succ_self _)⟩

/-- The budget suffices for a sub-call of any rank (all are at most 4) that starts further on in the
    tokens ... -/
theorem need_adv {r1 r fuel : Nat} {s1 s : PS} (h : s1.ts.length < s.ts.length) (hr : r1 ≤ 4 := by decide) :
    need r s < fuel + 1 → need r1 s1 < fuel := by
  unfold need; omega

/-- ... and for one of lower rank that starts at the same place, or anywhere not before it. -/
theorem need_rank {r1 r fuel : Nat} {s1 s : PS} (h : s1.ts.length ≤ s.ts.length) (hr : r1 < r := by decide) :
    need r s < fuel + 1 → need r1 s1 < fuel := by
  unfold need; omega

theorem expr_step (m : PMode) (fuel : Nat) (ih : AllGood m fuel) (p : Nat) (s : PS) :
    Good (parseExpr m (fuel + 1) p s) s (need 2 s) (fuel + 1) := by
  unfold parseExpr
  cases hp : prefixFn m (cur s.ts).typ with
  | none => exact Good.err
  | some fn =>
    have hpos : 1 ≤ s.ts.length := cur_pos _ (prefixFn_ne_eof _ _ _ hp)
    -- every branch ends in the infix loop, from a state no longer than `s`
    have loop (l : Expr) (s' : PS) (h : s'.ts.length ≤ s.ts.length) :
        Good (infixLoop m fuel p l s') s (need 2 s) (fuel + 1) :=
      (ih.infx p l s').lift h (need_rank h)
    cases fn with
    | ident => exact loop _ _ (Nat.le_refl _)
    | not =>
      exact (ih.expr pNot _).bindE (need_adv (next_lt hpos)) fun r s' hle =>
        loop _ _ (Nat.le_trans hle (next_le _))
    | group =>
      exact (ih.expr pLowest _).bindE (need_adv (next_lt hpos)) fun r s' hle =>
        Good.ite (fun _ => loop _ _ (Nat.le_trans (next_le _) (Nat.le_trans hle (next_le _)))) fun _ => Good.err
    | updateAction =>
      exact (ih.upd s).bindE (need_rank (Nat.le_refl _)) fun r s' hle => loop _ _ hle

theorem infx_step (m : PMode) (fuel : Nat) (ih : AllGood m fuel) (p : Nat) (l : Expr) (s : PS) :
    Good (infixLoop m (fuel + 1) p l s) s (need 0 s) (fuel + 1) := by
  unfold infixLoop
  refine Good.ite (fun _ => Good.ok (Nat.le_refl _)) fun hcond => ?_
  -- past the operator, and past the token after it
  have ⟨h1, h2⟩ := next_lt_of_peek (ts := s.ts) fun he => hcond (by rw [he]; rfl)
  -- the loop goes on after at least the operator has been consumed
  have loop (l : Expr) (s' : PS) (h : s'.ts.length < s.ts.length) :
      Good (infixLoop m fuel p l s') s (need 0 s) (fuel + 1) :=
    (ih.infx p l s').lift (Nat.le_of_lt h) (need_adv h)
  cases infixFn m (peek s.ts).typ with
  | none => exact Good.ok (Nat.le_refl _)
  | some fn =>
    cases fn with
    | «infix» =>
      exact (ih.expr _ _).bindE (need_adv h2) fun r s' hle => loop _ _ (Nat.lt_of_le_of_lt hle h2)
    | index =>
      exact Good.ite (fun _ => Good.err) fun _ =>
        Good.ite (fun _ => loop _ _ h2) fun _ =>
        Good.ite (fun _ => loop _ _ (Nat.lt_of_le_of_lt (next_le _) h2)) fun _ => Good.err
    | between =>
      exact Good.ite (fun _ => Good.err) fun _ =>
        Good.ite (fun _ => Good.ite (fun _ => Good.err) fun _ =>
          loop _ _ (Nat.lt_of_le_of_lt (Nat.le_trans (next_le _) (next_le _)) h2)) fun _ => Good.err
    | call =>
      exact (ih.args _).bindL (need_adv h1) fun r s' hle => loop _ _ (Nat.lt_of_le_of_lt hle h1)
    | isIn =>
      exact Good.ite (fun _ => Good.err) fun _ =>
        (ih.args _).bindL (need_adv h2) fun r s' hle =>
        Good.ite (fun _ => Good.err) fun _ => loop _ _ (Nat.lt_of_le_of_lt hle h2)

theorem args_step (m : PMode) (fuel : Nat) (ih : AllGood m fuel) (s : PS) :
    Good (parseArgs m (fuel + 1) s) s (need 4 s) (fuel + 1) := by
  unfold parseArgs
  exact Good.ite (fun _ => Good.ok (next_le _)) fun _ =>
    (ih.expr pLowest _).bindE (need_rank (next_le _)) fun e s' hle =>
    (ih.argsL _ s').lift (Nat.le_trans hle (next_le _)) (need_rank (Nat.le_trans hle (next_le _)))

theorem argsL_step (m : PMode) (fuel : Nat) (ih : AllGood m fuel) (acc : List Expr) (s : PS) :
    Good (argsLoop m (fuel + 1) acc s) s (need 3 s) (fuel + 1) := by
  unfold argsLoop
  refine Good.ite (fun hc => ?_) fun _ =>
    Good.ite (fun _ => Good.ok (next_le _)) fun _ => Good.err
  have ⟨_, h2⟩ := next_lt_of_peek (ts := s.ts) (by intro he; rw [he] at hc; exact absurd hc (by decide))
  exact (ih.expr pLowest _).bindE (need_adv h2) fun e s' hle =>
    (ih.argsL _ s').lift (Nat.le_of_lt (Nat.lt_of_le_of_lt hle h2)) (need_adv (Nat.lt_of_le_of_lt hle h2))

theorem act_step (m : PMode) (fuel : Nat) (ih : AllGood m fuel) (op : Token) (s : PS) :
    Good (parseAction m (fuel + 1) op s) s (need 3 s) (fuel + 1) := by
  unfold parseAction
  refine (ih.expr pLowest s).bindE (need_rank (Nat.le_refl _)) fun left s1 hle => ?_
  refine Good.ite (fun _ => Good.err) fun _ => ?_
  -- the state the right-hand side starts from: one token further on after SET
  have h2 : (if (op.typ == Tok.set) = true then { s1 with ts := next s1.ts } else s1).ts.length ≤ s.ts.length := by
    split
    · exact Nat.le_trans (next_le _) hle
    · exact hle
  exact Good.ite (fun _ => Good.ok h2) fun _ =>
    (ih.expr pLowest _).bindE (need_rank (Nat.le_trans (next_le _) h2)) fun right s3 hle3 =>
    Good.ok (Nat.le_trans hle3 (Nat.le_trans (next_le _) h2))

theorem upd_step (m : PMode) (fuel : Nat) (ih : AllGood m fuel) (s : PS) :
    Good (parseUpdateAction m (fuel + 1) s) s (need 1 s) (fuel + 1) := by
  unfold parseUpdateAction
  refine Good.ite (fun _ => Good.err) fun _ => Good.ite (fun _ => Good.ok (Nat.le_refl _)) fun hpk => ?_
  have ⟨h1, _⟩ := next_lt_of_peek (ts := s.ts) fun he => hpk (by rw [he]; rfl)
  exact (ih.act _ _).bindE (need_adv h1) fun a s' hle =>
    (ih.actL _ _ s').bindL (need_adv (Nat.lt_of_le_of_lt hle h1)) fun acts s'' hle2 =>
    Good.ok (Nat.le_trans hle2 (Nat.le_trans hle (next_le _)))

theorem actL_step (m : PMode) (fuel : Nat) (ih : AllGood m fuel) (op : Token) (acc : List Expr) (s : PS) :
    Good (actionsLoop m (fuel + 1) op acc s) s (need 3 s) (fuel + 1) := by
  unfold actionsLoop
  have loop (acc' : List Expr) (s' : PS) (h : s'.ts.length < s.ts.length) :
      Good (actionsLoop m fuel op acc' s') s (need 3 s) (fuel + 1) :=
    (ih.actL op acc' s').lift (Nat.le_of_lt h) (need_adv h)
  refine Good.ite (fun hc => ?_) fun _ => Good.ite (fun hu => ?_) fun _ =>
    Good.ite (fun _ => Good.ok (next_le _)) fun _ => Good.err
  · have ⟨_, h2⟩ := next_lt_of_peek (ts := s.ts) (by intro he; rw [he] at hc; exact absurd hc (by decide))
    exact (ih.act op _).bindE (need_adv h2) fun a s' hle => loop _ _ (Nat.lt_of_le_of_lt hle h2)
  · have ⟨h1, _⟩ := next_lt_of_peek (ts := s.ts) (by intro he; rw [he] at hu; exact absurd hu (by decide))
    -- the model looks into the clause it gets back, so this `match` is not the one of `bindE`
    refine (ih.upd { s with ts := next s.ts }).seq (k := fun e s' => match e with
      | .update _ acts => if acts.isEmpty then .err else actionsLoop m fuel op (acc ++ acts) s'
      | _ => actionsLoop m fuel op acc s') (need_adv h1) (fun e s' hle => ?_) ?_
    · have hlt : s'.ts.length < s.ts.length := Nat.lt_of_le_of_lt hle h1
      cases e with
      | update o acts => exact Good.ite (fun _ => Good.err) fun _ => loop _ _ hlt
      | _ => exact loop _ _ hlt
    · cases parseUpdateAction m fuel { s with ts := next s.ts } with
      | ok e s' => cases e <;> rfl
      | _ => rfl

theorem allGood (m : PMode) : ∀ fuel, AllGood m fuel
  | 0 => allGood_zero m
  | fuel + 1 =>
    have ih := allGood m fuel
    ⟨expr_step m fuel ih, infx_step m fuel ih, args_step m fuel ih, argsL_step m fuel ih,
     upd_step m fuel ih, act_step m fuel ih, actL_step m fuel ih⟩

theorem parseExpr_fuelFor (m : PMode) (ts : List Token) :
    parseExpr m (fuelFor ts.length) pLowest { ts := ts } ≠ .outOfFuel :=
  ((allGood m (fuelFor ts.length)).expr pLowest { ts := ts }).enough (by simp only [need, fuelFor]; omega)

/-- **C09, the parser never loops**: `5·n + 2` is enough fuel for `parseExpr` on `n` tokens (`allGood`) and `fuelFor n`
    is more, so the model never answers "out of fuel" -/
theorem parseCond_total (ts : List Token) : parseCondTokens ts ≠ .outOfFuel := by
  fun_cases parseCondTokens ts
  case case6 _ _ h => exact absurd h (parseExpr_fuelFor _ _)  -- the branch in which `parseExpr` ran out
  all_goals nofun

theorem parseUpdate_total (ts : List Token) : parseUpdateTokens ts ≠ .outOfFuel := by
  fun_cases parseUpdateTokens ts
  case case5 _ h => exact absurd h (parseExpr_fuelFor _ _)
  all_goals nofun

theorem ParseResult.ok_or_syntaxErr {r : ParseResult} (h : r ≠ .outOfFuel) : (∃ e, r = .ok e) ∨ r = .syntaxErr := by
  cases r with
  | ok e => exact .inl ⟨e, rfl⟩
  | syntaxErr => exact .inr rfl
  | outOfFuel => exact absurd rfl h

/-- **C09**: for every byte string, lexing and parsing end with an expression or a syntax error -/
theorem front_end_total (s : Bytes) :
    (∃ e, parseCond s = .ok e) ∨ parseCond s = .syntaxErr :=
  ParseResult.ok_or_syntaxErr (parseCond_total (Lexer.lex s))

theorem front_end_total_update (s : Bytes) :
    (∃ e, parseUpdate s = .ok e) ∨ parseUpdate s = .syntaxErr :=
  ParseResult.ok_or_syntaxErr (parseUpdate_total (Lexer.lex s))

/-- alias names not yet being expanded (with multiplicity) -/
def pending : List Bytes → List Bytes → Nat
  | [], _ => 0
  | k :: ks, ex => (if ex.contains k then 0 else 1) + pending ks ex

theorem pending_cons (keys ex : List Bytes) (n : Bytes) (hn : ex.contains n = false) :
    pending keys (n :: ex) + keys.count n = pending keys ex := by
  induction keys with
  | nil => rfl
  | cons k ks ih =>
    simp only [pending, List.contains_cons, List.count_cons]
    by_cases hk : k = n
    · subst hk; simp only [BEq.rfl, Bool.true_or, hn, if_true, Bool.false_eq_true, if_false]; omega
    · simp only [beq_eq_false_iff_ne.2 hk, Bool.false_or, Bool.false_eq_true, if_false]; omega

theorem pending_alias_lt (e : Env) {n a : Bytes} {ex : List Bytes} (ha : alookup n e.aliases = some a)
    (hc : ex.contains n = false) : pending (keysOf e.aliases) (n :: ex) < pending (keysOf e.aliases) ex := by
  have := pending_cons (keysOf e.aliases) ex n hc
  have := List.count_pos_iff.2 ((ahas_iff_mem_keys n e.aliases).1 (by simp [ahas, ha]))
  omega

/-- one more unit of fuel than there are pending aliases changes nothing: each step along a chain of aliases takes one
    out of `pending`, so every chain was followed to its end or to a name already being expanded (a cycle) -/
theorem expandName_succ (e : Env) : ∀ (f : Nat) (name : Bytes) (ex : List Bytes),
    pending (keysOf e.aliases) ex ≤ f → e.expandName (f + 1) name ex = e.expandName f name ex := by
  intro f
  induction f with
  | zero =>
    intro name ex h
    refine (congrArg _ (List.flatMap_eq_nil_iff.2 fun n _ => ?_)).trans (List.append_nil _)
    cases ha : alookup n e.aliases with
    | none => rfl
    | some a =>
      cases hc : ex.contains n with
      | true => rfl
      | false => have := pending_alias_lt e ha hc; omega
  | succ f ih =>
    intro name ex h
    rw [Env.expandName, Env.expandName]
    congr 2
    funext n
    cases ha : alookup n e.aliases with
    | none => rfl
    | some a =>
      cases hc : ex.contains n with
      | true => rfl
      | false => have := pending_alias_lt e ha hc; exact ih a (n :: ex) (by omega)

theorem expandName_add (e : Env) (f : Nat) (name : Bytes) (ex : List Bytes) (h : pending (keysOf e.aliases) ex ≤ f) :
    ∀ d, e.expandName (f + d) name ex = e.expandName f name ex
  | 0 => rfl
  | d + 1 => (expandName_succ e (f + d) name ex (Nat.le_add_right_of_le h)).trans (expandName_add e f name ex h d)

theorem expandName_fuel_irrelevant (e : Env) : ∀ (f1 f2 : Nat) (name : Bytes) (ex : List Bytes),
    pending (keysOf e.aliases) ex ≤ f1 → pending (keysOf e.aliases) ex ≤ f2 →
    e.expandName f1 name ex = e.expandName f2 name ex := by
  intro f1 f2 name ex h1 h2
  rcases Nat.le_total f1 f2 with h | h <;> obtain ⟨d, rfl⟩ := Nat.le.dest h
  · exact (expandName_add e f1 name ex h1 d).symm
  · exact expandName_add e f2 name ex h2 d

theorem pending_nil (keys : List Bytes) : pending keys [] = keys.length := by
  induction keys with
  | nil => rfl
  | cons k ks ih => simp [pending, ih]; omega

/-- **C09, alias expansion ends**: the fuel `Env.get` hands to it is enough for every alias table, cyclic or not -/
theorem get_expansion_total (e : Env) (name : Bytes) (more : Nat) :
    e.expandName (e.aliases.length + 1) name [] = e.expandName (e.aliases.length + 1 + more) name [] :=
  (expandName_add e _ name [] (by simp [pending_nil, keysOf]) more).symm

end Minidyn.Props.C09

/-
  C09 at the client (KF-C09-empty-expression), stated for the ConditionExpression of one PutItem only: the empty
  FilterExpression and KeyConditionExpression of Query and Scan, which the same finding names, have no theorem.
-/
import Minidyn.Model.Client
namespace Minidyn.Props.C09
open Minidyn.Client

/-- refutation of strictness at the client (KF-C09-empty-expression): a PutItem with a ConditionExpression that is
    present but empty is refused as if the condition had been false; the interpreter rejects the empty text (syntax) -/
theorem empty_condition_not_parsed :
    let c0 : Client := (createTable { sdk := .v2 } { table := [116], key := { hash := ([104], [83]) }, payPerRequest := true }).1
    (match (putItem c0 [116] [([104], .s [97])] (some []) {}).2 with | .err .conditionFailed _ => true | _ => false) = true ∧
    (match Interp.langMatch [] [] [] [] with | .error .syntax => true | _ => false) = true := by
  constructor
  · decide +kernel
  · decide +kernel

end Minidyn.Props.C09

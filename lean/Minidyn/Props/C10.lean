/-
  Minidyn.Props.C10 — attribute values survive a write/read round trip.

  Of the Go mappers only the output side is modelled (`outItem`; items enter `putItem` as `Item`, there is no input
  mapper), so "round trip" below is the output mapper alone.  For SDK v1 `outItem` is the identity by definition
  (`v1_roundtrip` is `rfl`; nothing is proved of the Go v1 mappers).  The SDK v2 output mapper `outV2` is the identity
  on every value tree without an empty binary, list, map or set at any depth (`v2_roundtrip_partial`); on the others it
  is not (`v2_refuted_empty_list` &c., KF-C10-v2-empty-as-null).  `read_paths_share_mapper` is about GetItem only; that
  Query and Scan also answer through `outItem` is the success case of `Client.searchOnce_cases`, and BatchGetItem
  calls `getItem` (`C19Get.batchGet_eq`).
-/
import Minidyn.Lemmas.Client
namespace Minidyn.Props.C10
open Minidyn.Client

theorem v1_roundtrip (it : Item) : outItem .v1 it = it := rfl

mutual
  def NoEmpty : AV → Bool
    | .b v => !v.isEmpty
    | .l xs => !xs.isEmpty && NoEmptyList xs
    | .m kvs => !kvs.isEmpty && NoEmptyKvs kvs
    | .ss xs => !xs.isEmpty
    | .ns xs => !xs.isEmpty
    | .bs xs => !xs.isEmpty
    | _ => true
  def NoEmptyList : List AV → Bool
    | [] => true
    | x :: xs => NoEmpty x && NoEmptyList xs
  def NoEmptyKvs : List (Bytes × AV) → Bool
    | [] => true
    | (_, x) :: xs => NoEmpty x && NoEmptyKvs xs
end

mutual
  theorem outV2_id : ∀ v : AV, NoEmpty v = true → outV2 v = v
    | .s _, _ | .n _, _ | .bool _, _ | .null, _ => rfl
    | .b v, h | .ss v, h | .ns v, h | .bs v, h => by simp only [NoEmpty, Bool.not_eq_true'] at h; simp [outV2, h]
    | .l xs, h => by
      simp only [NoEmpty, Bool.and_eq_true, Bool.not_eq_true'] at h
      simp [outV2, h.1, outV2List_id xs h.2]
    | .m kvs, h => by
      simp only [NoEmpty, Bool.and_eq_true, Bool.not_eq_true'] at h
      simp [outV2, h.1, outV2Kvs_id kvs h.2]
  theorem outV2List_id : ∀ xs : List AV, NoEmptyList xs = true → outV2List xs = xs
    | [], _ => rfl
    | x :: xs, h => by
      simp only [NoEmptyList, Bool.and_eq_true] at h
      simp only [outV2List, outV2_id x h.1, outV2List_id xs h.2]
  theorem outV2Kvs_id : ∀ kvs : List (Bytes × AV), NoEmptyKvs kvs = true → outV2Kvs kvs = kvs
    | [], _ => rfl
    | (k, x) :: xs, h => by
      simp only [NoEmptyKvs, Bool.and_eq_true] at h
      simp only [outV2Kvs, outV2_id x h.1, outV2Kvs_id xs h.2]
end

/-- **C10, partial**: the v2 output mapper alone; the empty values are KF-C10-v2-empty-as-null -/
theorem v2_roundtrip_partial (it : Item) (h : NoEmptyKvs it = true) : outItem .v2 it = it := outV2Kvs_id it h

/-- GetItem only, despite the name: it answers the stored item passed through `outItem` -/
theorem read_paths_share_mapper (c : Client) (t : Bytes) (key : Item) (tb : Table) (k : Bytes)
    (hf : c.failure = none) (ht : alookup t c.tables = some tb) (hk : Key.getKey tb.schema tb.attrs key = .ok k) :
    (getItem c t key).2 = .item (some (outItem c.sdk (tb.getItem k))) := by
  rw [getItem_eq key hf ht, hk]

/-- KF-C10-v2-empty-as-null: the v2 output mapper turns an empty list, map or binary into NULL, at any depth -/
theorem v2_refuted_empty_list : outV2 (.l []) = .null := rfl
theorem v2_refuted_empty_map : outV2 (.m []) = .null := rfl
theorem v2_refuted_empty_binary : outV2 (.b []) = .null := rfl
theorem v2_refuted_nested : outV2 (.m [([107], .l [])]) = .m [([107], .null)] := rfl

/-- non-vacuity: a deep tree of all ten types without empty members -/
example : NoEmpty (.m [([97], .l [.s [], .n [49], .b [0], .bool false, .null, .ss [[120]], .ns [[49]], .bs [[1]], .m [([107], .l [.s [121]])]])]) = true := by
  decide

end Minidyn.Props.C10

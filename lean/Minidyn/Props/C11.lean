/-
  C11 — any number of goroutines interleaved over the client mutex (`Client.mu`, a `sync.Mutex`: Lock blocks while it
  is taken, Unlock of an unlocked mutex is fatal), each running `disciplined` code, which `Tie/Locks` checks for the
  flattened code of every exported method (`method_disciplined`).  `Inv` holds at the start (`inv_init`) and along every
  schedule (`run_inv`); the other theorems speak of one state or one step.  Not shown: that in a run an Unlock lies
  between two accesses of different goroutines; that a method is one critical section (`BatchWriteItem` flattens to
  three), hence atomic as a whole.  Only the client mutex is modelled: the memory of a table is behind the `.table`
  events, which count as accesses; Go's memory model is not modelled (the check runs pairs of methods under the race
  detector instead).
-/
import Minidyn.Tie.Locks
namespace Minidyn.Props.C11
open Minidyn.Generated Minidyn.Tie

structure Th where
  rest : List LockEv
  held : Bool

structure Sys where
  owner : Option Nat
  th : Nat → Th

def upd (f : Nat → Th) (i : Nat) (v : Th) : Nat → Th := fun j => if j = i then v else f j

def isAccess : LockEv → Bool
  | .read _ | .write _ | .table _ => true
  | _ => false

inductive StepResult where
  | moved (s : Sys)
  | blocked            -- Lock while the mutex is taken
  | fatal              -- Unlock by a non-owner (stricter than Go); an event the flattening leaves none of
  | done

def step (s : Sys) (i : Nat) : StepResult :=
  match (s.th i).rest with
  | [] => .done
  | .lock :: r =>
    match s.owner with
    | none => .moved { owner := some i, th := upd s.th i ⟨r, true⟩ }
    | some _ => .blocked
  | .unlock :: r =>
    if s.owner = some i then .moved { owner := none, th := upd s.th i ⟨r, false⟩ } else .fatal
  | .read _ :: r | .write _ :: r | .table _ :: r => .moved { s with th := upd s.th i ⟨r, (s.th i).held⟩ }
  | .deferUnlock :: _ | .call _ :: _ => .fatal

structure Inv (s : Sys) : Prop where
  disc : ∀ i, disciplined (s.th i).held (s.th i).rest = true
  own : ∀ i, (s.th i).held = true ↔ s.owner = some i

theorem upd_same (f : Nat → Th) (i : Nat) (v : Th) : upd f i v i = v := if_pos rfl
theorem upd_other (f : Nat → Th) (i j : Nat) (v : Th) (h : j ≠ i) : upd f i v j = f j := if_neg h

theorem Inv.upd {s : Sys} (hinv : Inv s) (i : Nat) (v : Th) (o : Option Nat)
    (hd : disciplined v.held v.rest = true) (hi : v.held = true ↔ o = some i)
    (ho : ∀ j, j ≠ i → (s.owner = some j ↔ o = some j)) : Inv { owner := o, th := upd s.th i v } := by
  refine ⟨fun j => ?_, fun j => ?_⟩ <;> by_cases hj : j = i
  · subst hj; simpa only [upd_same] using hd
  · simpa only [upd_other _ _ _ _ hj] using hinv.disc j
  · subst hj; simpa only [upd_same] using hi
  · simpa only [upd_other _ _ _ _ hj] using (hinv.own j).trans (ho j hj)

/-- The four shapes of a step under `Inv`: code ended; Lock, not holding; Unlock, owning; access, holding (`r` is the
    code that remains).  The theorems below go through this instead of unfolding `step`. -/
theorem step_cases {s : Sys} (hinv : Inv s) (i : Nat) :
    ((s.th i).rest = [] ∧ step s i = .done) ∨
    (∃ r, (s.th i).held = false ∧ disciplined true r = true ∧
      step s i = match s.owner with
        | none => .moved { owner := some i, th := upd s.th i ⟨r, true⟩ }
        | some _ => .blocked) ∨
    (∃ r, s.owner = some i ∧ disciplined false r = true ∧
      step s i = .moved { owner := none, th := upd s.th i ⟨r, false⟩ }) ∨
    (∃ r, (s.th i).held = true ∧ disciplined (s.th i).held r = true ∧
      step s i = .moved { s with th := upd s.th i ⟨r, (s.th i).held⟩ }) := by
  have hd := hinv.disc i
  unfold step
  cases hr : (s.th i).rest with
  | nil => exact .inl ⟨rfl, rfl⟩
  | cons e r =>
    rw [hr] at hd
    cases e <;> simp only [disciplined, Bool.and_eq_true, Bool.not_eq_true', Bool.false_eq_true] at hd
    case lock => exact .inr (.inl ⟨r, hd.1, hd.2, rfl⟩)
    case unlock => exact .inr (.inr (.inl ⟨r, (hinv.own i).1 hd.1, hd.2, if_pos ((hinv.own i).1 hd.1)⟩))
    case read | write | table => exact .inr (.inr (.inr ⟨r, hd.1, hd.2, rfl⟩))

/-- **the invariant is preserved by every step of every goroutine** -/
theorem step_inv (s s' : Sys) (i : Nat) (hinv : Inv s) (h : step s i = .moved s') : Inv s' := by
  rcases step_cases hinv i with ⟨_, hs⟩ | ⟨r, _, hd, hs⟩ | ⟨r, hown, hd, hs⟩ | ⟨r, _, hd, hs⟩ <;> rw [hs] at h
  · cases h
  · cases hown : s.owner <;> rw [hown] at h <;> cases h
    exact hinv.upd i ⟨r, true⟩ _ hd (by simp) fun j hj => by simp [hown, Ne.symm hj]
  · cases h
    exact hinv.upd i ⟨r, false⟩ _ hd (by simp) fun j hj => by simp [hown, Ne.symm hj]
  · cases h
    exact hinv.upd i _ _ hd (hinv.own i) fun _ _ => Iff.rfl

/-- no Unlock of a mutex the goroutine does not hold (Go: `fatal error: sync: unlock of unlocked mutex`) -/
theorem step_safe (s : Sys) (i : Nat) (hinv : Inv s) : step s i ≠ .fatal := by
  rcases step_cases hinv i with ⟨_, hs⟩ | ⟨r, _, _, hs⟩ | ⟨r, _, _, hs⟩ | ⟨r, _, _, hs⟩ <;> rw [hs]
  · nofun
  · cases s.owner <;> nofun
  · nofun
  · nofun

/-- **no data race**, as a property of one state: a goroutine about to access shared client state owns the mutex -/
theorem access_owns (s : Sys) (i : Nat) (hinv : Inv s) (e : LockEv) (r : List LockEv)
    (hnext : (s.th i).rest = e :: r) (hacc : isAccess e = true) : s.owner = some i := by
  have hd := hinv.disc i
  rw [hnext] at hd
  apply (hinv.own i).1
  cases e
  case read | write | table => exact (Bool.and_eq_true_iff.1 hd).1
  all_goals cases hacc

/-- two goroutines are never both about to access shared state (a fact about one state, not about a run) -/
theorem no_two_owners (s : Sys) (i j : Nat) (hinv : Inv s) (e1 e2 : LockEv) (r1 r2 : List LockEv)
    (h1 : (s.th i).rest = e1 :: r1) (h2 : (s.th j).rest = e2 :: r2)
    (a1 : isAccess e1 = true) (a2 : isAccess e2 = true) : i = j := by
  have o1 := access_owns s i hinv e1 r1 h1 a1
  have o2 := access_owns s j hinv e2 r2 h2 a2
  rw [o1] at o2
  exact Option.some.inj o2

/-- The model has no events outside the critical sections: a Lock waits for the mutex, an Unlock or an access is
    performed by its owner.  So while `i` holds it no other goroutine moves at all. -/
theorem others_wait {s : Sys} (hinv : Inv s) {i j : Nat} (hij : j ≠ i) (hown : s.owner = some i) (s' : Sys) :
    step s j ≠ .moved s' := by
  have hj : s.owner ≠ some j := fun ho => hij (Option.some.inj (ho.symm.trans hown))
  rcases step_cases hinv j with ⟨_, hs⟩ | ⟨r, _, _, hs⟩ | ⟨r, ho, _, _⟩ | ⟨r, hheld, _, _⟩
  · rw [hs]; nofun
  · rw [hs, hown]; nofun
  · exact absurd ho hj
  · exact absurd ((hinv.own j).1 hheld) hj

/-- **critical sections are exclusive**: while goroutine `i` holds the mutex, a step of another goroutine is not an
    access to shared state and leaves the owner in place.  Vacuously: by `others_wait` no other goroutine moves at all,
    so the hypotheses never hold together. -/
theorem critical_section_exclusive (s s' : Sys) (i j : Nat) (hinv : Inv s) (hij : j ≠ i)
    (hown : s.owner = some i) (h : step s j = .moved s') :
    s'.owner = some i ∧ (∀ e r, (s.th j).rest = e :: r → isAccess e = false) :=
  absurd h (others_wait hinv hij hown s')

/-- **no deadlock on the client mutex**, as a property of one state: a goroutine that still has code either moves, or
    is blocked on a Lock while some goroutine holds the mutex and that holder's next step moves.  That the holder goes
    on to release the mutex is not stated (by `disciplined`, code that holds does not end before an Unlock). -/
theorem progress (s : Sys) (i : Nat) (hinv : Inv s) (hcode : (s.th i).rest ≠ []) :
    (∃ s', step s i = .moved s') ∨
    (step s i = .blocked ∧ ∃ k, s.owner = some k ∧ ∃ s', step s k = .moved s') := by
  rcases step_cases hinv i with ⟨hr, _⟩ | ⟨r, _, _, hs⟩ | ⟨r, _, _, hs⟩ | ⟨r, _, _, hs⟩
  · exact absurd hr hcode
  · rw [hs]
    cases hk : s.owner with
    | none => exact .inl ⟨_, rfl⟩
    | some k =>
      refine .inr ⟨rfl, k, rfl, ?_⟩
      -- `k` holds the mutex, so its code goes on with an Unlock or an access
      have hheld := (hinv.own k).2 hk
      rcases step_cases hinv k with ⟨hr, _⟩ | ⟨_, hf, _, _⟩ | ⟨r, _, _, hs⟩ | ⟨r, _, _, hs⟩
      · have := hinv.disc k; rw [hr, hheld] at this; cases this
      · rw [hheld] at hf; cases hf
      · exact ⟨_, hs⟩
      · exact ⟨_, hs⟩
  · exact .inl ⟨_, hs⟩
  · exact .inl ⟨_, hs⟩

theorem inv_init (code : Nat → List LockEv) (h : ∀ i, disciplined false (code i) = true) :
    Inv { owner := none, th := fun i => ⟨code i, false⟩ } :=
  ⟨fun i => h i, fun i => by simp⟩

def run (s : Sys) : List Nat → Sys
  | [] => s
  | i :: rest => match step s i with
    | .moved s' => run s' rest
    | _ => run s rest

/-- **every reachable state of every schedule satisfies the invariant** -/
theorem run_inv (sched : List Nat) : ∀ s, Inv s → Inv (run s sched) := by
  induction sched with
  | nil => intro s h; exact h
  | cons i rest ih =>
    intro s h
    simp only [run]
    cases hs : step s i with
    | moved s' => exact ih s' (step_inv s s' i h hs)
    | _ => exact ih s h

/-- the hypothesis of `inv_init` from `wellLocked_generated_v1`/`_v2` -/
theorem method_disciplined (sk : Skeletons) (h : wellLocked sk = true) (name : String) (evs flat : List LockEv)
    (hmem : (name, true, evs) ∈ sk) (hflat : flatOf sk evs = some flat) : disciplined false flat = true := by
  simpa only [Bool.not_true, Bool.false_or, wellLockedMethod, hflat] using List.all_eq_true.1 h _ hmem

/-- non-vacuity: PutItem and Query of the v1 client flatten to disciplined, non-trivial code -/
example : (match flatOf locksV1 [.call "PutItem"], flatOf locksV1 [.call "Query"] with
    | some f1, some f2 => disciplined false f1 && disciplined false f2 && decide (f1.length ≥ 5)
    | _, _ => false) = true := by decide +kernel

end Minidyn.Props.C11

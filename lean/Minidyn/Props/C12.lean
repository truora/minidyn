/-
  C12 — numbers behave as exact decimals, not floats or strings.

  The library parses, compares and computes N values in `float64`, so the property (38 significant digits, exact
  arithmetic) is FALSE of it and of the model beyond 53 bits: `precision_lost_*` prove the negation on the witnesses of
  `KF-C12-float-arithmetic`, which `corpus/C12` replays on the implementation.
  What does hold for all inputs: comparison is by value, never by text (`cmp_swap`, `twin_numerals_*`; C12Order);
  natural numbers below 2^53 are represented exactly (`toInt_ofNat`, `ofNat_injective`), compare as such (`cmp_ofNat`)
  and are added and subtracted without rounding while the result stays in that range (`add_ofNat`, `sub_ofNat`) —
  nothing here is about negative integers; an update leaves a number it does not target as it is, digit for digit
  (`untargeted_number_kept`).
-/
import Minidyn.Model.Num
import Minidyn.Props.C07
namespace Minidyn
namespace F64

theorem cmp_refl (a : F64) : cmp a a = .eq := by
  simp [cmp]

theorem cmp_swap (a b : F64) : (cmp a b).swap = cmp b a := by
  simp only [cmp, Int.min_comm a.exp b.exp]
  exact Int.compare_swap _ _

theorem eq_symm (a b : F64) : eq a b = eq b a := by
  unfold eq; rw [← cmp_swap b a]; cases cmp b a <;> rfl

theorem lt_irrefl (a : F64) : lt a a = false := by simp [lt, cmp_refl]

theorem lt_asymm (a b : F64) (h : lt a b = true) : lt b a = false := by
  unfold lt at *; rw [← cmp_swap a b, eq_of_beq h]; rfl

/-- as in Go, where `-0.0 == 0.0` although the two are distinct `float64` values -/
theorem neg_zero_eq : eq (zero true) (zero false) = true := by decide

-- "1.0" "1" ; "100" "1e2" ; "0.50" ".5" ; "-0" "0"
theorem twin_numerals_1 : ofText [49, 46, 48] = ofText [49] := by decide +kernel
theorem twin_numerals_2 : ofText [49, 48, 48] = ofText [49, 101, 50] := by decide +kernel
theorem twin_numerals_3 : ofText [48, 46, 53, 48] = ofText [46, 53] := by decide +kernel
theorem twin_numerals_4 : (do let a ← ofText [45, 48]; let b ← ofText [48]; pure (eq a b)) = some true := by
  decide +kernel

/-- "9" < "10" as numbers, although "10" sorts first as a string -/
theorem value_order : (do let a ← ofText [57]; let b ← ofText [49, 48]; pure (lt a b)) = some true ∧
    Bytes.lt [49, 48] [57] = true := by decide +kernel

theorem shiftLeft_ne_zero {n : Nat} (h0 : n ≠ 0) (K : Nat) : n <<< K ≠ 0 :=
  mt Nat.shiftLeft_eq_zero_iff.1 h0

theorem log2_shiftLeft {n : Nat} (h0 : n ≠ 0) (K : Nat) : Nat.log2 (n <<< K) = Nat.log2 n + K := by
  induction K with
  | zero => rfl
  | succ K ih => rw [Nat.shiftLeft_succ, Nat.log2_two_mul (shiftLeft_ne_zero h0 K), ih]; rfl

theorem normRound_pad (neg : Bool) (q d : Nat) (e : Int) (h0 : q ≠ 0) (h : Nat.log2 q + 1 + d = 53) :
    normRound neg q false e = ⟨neg, q <<< d, e - d⟩ := by
  simp only [normRound, beq_eq_false_iff_ne.2 h0, Bool.false_eq_true, if_false, if_pos (Nat.le.intro h),
    Nat.sub_eq_of_eq_add' h.symm]

theorem normRound_drop (neg : Bool) (m s : Nat) (e : Int) (hm : Nat.log2 m + 1 = 53) (hs : 1 ≤ s) :
    normRound neg (m <<< s) false e = ⟨neg, m, e + s⟩ := by
  have h0 : m ≠ 0 := by rintro rfl; simp at hm
  have hq0 := beq_eq_false_iff_ne.2 (shiftLeft_ne_zero h0 s)
  have hbits : Nat.log2 (m <<< s) + 1 = 53 + s := by rw [log2_shiftLeft h0, ← hm, Nat.add_right_comm]
  have htop : (m <<< s) >>> s = m := Nat.shiftLeft_shiftRight _ _
  have hrem : (m <<< s) % 2 ^ s = 0 := by rw [Nat.shiftLeft_eq]; exact Nat.mul_mod_left _ _
  have hhalf : 0 < 2 ^ (s - 1) := Nat.two_pow_pos _
  have hne : (m == 2 ^ 53) = false := beq_eq_false_iff_ne.2 (Nat.ne_of_lt (hm ▸ Nat.lt_log2_self))
  simp only [normRound, hq0, hbits, Nat.not_le.2 (Nat.lt_add_of_pos_right hs), Nat.add_sub_cancel_left, htop, hrem, hne,
    Bool.false_eq_true, if_false, decide_eq_false (Nat.not_lt_zero _), beq_eq_false_iff_ne.2 (Nat.ne_of_lt hhalf),
    Bool.false_and, Bool.or_self]

/-- the shift that brings `n` to 53 bits; `0` is stored with exponent `0` -/
def kOf (n : Nat) : Nat := if n = 0 then 0 else 53 - (Nat.log2 n + 1)

theorem bits_kOf (n : Nat) (h0 : n ≠ 0) (h : n < 2 ^ 53) : Nat.log2 n + 1 + kOf n = 53 := by
  rw [kOf, if_neg h0]; exact Nat.add_sub_cancel' ((Nat.log2_lt h0).2 h)

theorem ofNat_eq (n : Nat) (h : n < 2 ^ 53) : ofNat n = ⟨false, n <<< kOf n, -((kOf n : Nat) : Int)⟩ := by
  by_cases h0 : n = 0
  · subst h0; decide
  · rw [ofNat, normRound_pad false n (kOf n) 0 h0 (bits_kOf n h0 h), Int.zero_sub]

theorem ofNat_neg (n : Nat) (h : n < 2 ^ 53) : (ofNat n).neg = false := by rw [ofNat_eq n h]

theorem scaled_ofNat (n K : Nat) (h : n < 2 ^ 53) (hK : kOf n ≤ K) :
    scaled (ofNat n) (-(K : Int)) = ((n * 2 ^ K : Nat) : Int) := by
  obtain ⟨d, rfl⟩ := Nat.le.dest hK
  have : (-((kOf n : Nat) : Int) - -((kOf n + d : Nat) : Int)).toNat = d := by omega
  simp only [ofNat_eq n h, scaled, this, Bool.false_eq_true, if_false, Nat.shiftLeft_eq, Nat.pow_add, Nat.mul_assoc]

theorem common_scale (a b : Nat) (ha : a < 2 ^ 53) (hb : b < 2 ^ 53) : ∃ K : Nat,
    min (ofNat a).exp (ofNat b).exp = -(K : Int) ∧
    scaled (ofNat a) (-(K : Int)) = ((a * 2 ^ K : Nat) : Int) ∧ scaled (ofNat b) (-(K : Int)) = ((b * 2 ^ K : Nat) : Int) :=
  ⟨max (kOf a) (kOf b),
    by rw [ofNat_eq a ha, ofNat_eq b hb]; exact (Int.neg_min_neg _ _).trans (congrArg _ (Lean.Omega.Int.ofNat_max _ _).symm),
    scaled_ofNat a _ ha (Nat.le_max_left _ _), scaled_ofNat b _ hb (Nat.le_max_right _ _)⟩

/-- a natural number below 2^53 is stored without rounding: Go's `int64(f)` gives it back -/
theorem toInt_ofNat (n : Nat) (h : n < 2 ^ 53) : toInt (ofNat n) = n := by
  rw [ofNat_eq n h]
  by_cases hk : kOf n = 0
  · simp [toInt, hk]
  · have hneg : ¬ (-((kOf n : Nat) : Int) ≥ 0) := by omega
    simp only [toInt, hneg, Bool.false_eq_true, if_false, Int.neg_neg, Int.toNat_natCast, Nat.shiftLeft_shiftRight]

theorem ofNat_injective (a b : Nat) (ha : a < 2 ^ 53) (hb : b < 2 ^ 53) (h : ofNat a = ofNat b) : a = b := by
  have := congrArg toInt h
  rw [toInt_ofNat a ha, toInt_ofNat b hb] at this
  exact Int.ofNat.inj this

theorem normRound_shift (n K k : Nat) (h0 : n ≠ 0) (hk : Nat.log2 n + 1 + k = 53) :
    normRound false (n <<< K) false (-(K : Int)) = ⟨false, n <<< k, -(k : Int)⟩ := by
  rcases Nat.lt_or_ge k K with hlt | hge
  · obtain ⟨s, rfl⟩ := Nat.exists_eq_add_of_lt hlt
    rw [Nat.add_assoc, Nat.shiftLeft_add,
      normRound_drop _ _ _ _ (by rw [log2_shiftLeft h0, Nat.add_right_comm]; exact hk) (Nat.succ_pos s),
      Int.natCast_add, Int.neg_add, Int.neg_add_cancel_right]
  · obtain ⟨d, rfl⟩ := Nat.le.dest hge
    rw [normRound_pad _ _ d _ (shiftLeft_ne_zero h0 K)
        (by rw [log2_shiftLeft h0, Nat.add_right_comm _ K, Nat.add_assoc]; exact hk),
      ← Nat.shiftLeft_add, Int.natCast_add, Int.neg_add, Int.sub_eq_add_neg]

theorem normRound_pow (n K : Nat) (h0 : n ≠ 0) (h : n < 2 ^ 53) :
    normRound false (n <<< K) false (-(K : Int)) = ofNat n := by
  rw [ofNat_eq n h]; exact normRound_shift n K _ h0 (bits_kOf n h0 h)

/-- the tail of `add` and of `sub` when the exact result is `n·2^K` at exponent `-K` -/
theorem round_int (n K : Nat) (h : n < 2 ^ 53) :
    (if (((n * 2 ^ K : Nat) : Int) == 0) = true then zero false
      else normRound (decide (((n * 2 ^ K : Nat) : Int) < 0)) ((n * 2 ^ K : Nat) : Int).natAbs false (-(K : Int))) =
    ofNat n := by
  by_cases h0 : n = 0
  · rw [h0, Nat.zero_mul]; rfl
  · rw [← Nat.shiftLeft_eq, if_neg (mt eq_of_beq (Int.natCast_ne_zero.2 (shiftLeft_ne_zero h0 K))), Int.natAbs_natCast,
      decide_eq_false (Int.not_lt.2 (Int.natCast_nonneg _))]
    exact normRound_pow n K h0 h

/-- **exact addition of natural numbers**: no rounding as long as the sum stays below 2^53 -/
theorem add_ofNat (a b : Nat) (h : a + b < 2 ^ 53) : add (ofNat a) (ofNat b) = ofNat (a + b) := by
  have ha : a < 2 ^ 53 := Nat.lt_of_le_of_lt (Nat.le_add_right a b) h
  obtain ⟨K, he, sa, sb⟩ := common_scale a b ha (Nat.lt_of_le_of_lt (Nat.le_add_left b a) h)
  simp only [add, he, sa, sb, ofNat_neg a ha, Bool.false_and, ← Int.natCast_add, ← Nat.add_mul]
  exact round_int (a + b) K h

theorem sub_ofNat_of_le (a b : Nat) (ha : a < 2 ^ 53) (hle : b ≤ a) : sub (ofNat a) (ofNat b) = ofNat (a - b) := by
  obtain ⟨K, he, sa, sb⟩ := common_scale a b ha (Nat.lt_of_le_of_lt hle ha)
  simp only [sub, he, sa, sb, ofNat_neg a ha, Bool.false_and, ← Int.natCast_sub (Nat.mul_le_mul_right _ hle), ← Nat.sub_mul]
  exact round_int (a - b) K (Nat.lt_of_le_of_lt (Nat.sub_le a b) ha)

/-- **exact subtraction of natural numbers** below 2^53 (both positive, `b ≤ a`) -/
theorem sub_ofNat (a b : Nat) (ha : a < 2 ^ 53) (ha0 : a ≠ 0) (hb0 : b ≠ 0) (hle : b ≤ a) :
    sub (ofNat a) (ofNat b) = ofNat (a - b) := sub_ofNat_of_le a b ha hle

theorem cmp_ofNat_of_lt (a b : Nat) (ha : a < 2 ^ 53) (hb : b < 2 ^ 53) : cmp (ofNat a) (ofNat b) = compare a b := by
  obtain ⟨K, he, sa, sb⟩ := common_scale a b ha hb
  simp only [cmp, he, sa, sb]
  simp only [Int.compare_eq_ite_lt, Nat.compare_eq_ite_lt, Int.ofNat_lt, Nat.mul_lt_mul_right (Nat.two_pow_pos K)]

theorem cmp_ofNat (a b : Nat) (ha : a < 2 ^ 53) (hb : b < 2 ^ 53) (ha0 : a ≠ 0) (hb0 : b ≠ 0) :
    cmp (ofNat a) (ofNat b) = compare a b := cmp_ofNat_of_lt a b ha hb

-- 9007199254740993 (2^53 + 1) and 9007199254740992 are one number to the code
theorem precision_lost_compare :
    ofText [57, 48, 48, 55, 49, 57, 57, 50, 53, 52, 55, 52, 48, 57, 57, 51] =
    ofText [57, 48, 48, 55, 49, 57, 57, 50, 53, 52, 55, 52, 48, 57, 57, 50] := by decide +kernel

-- 0.1 + 0.2 is not 0.3
theorem precision_lost_add :
    (do let a ← ofText [48, 46, 49]; let b ← ofText [48, 46, 50]; let c ← ofText [48, 46, 51]
        pure (eq (add a b) c)) = some false := by decide +kernel

-- and the sum is written back as 0.30000000000000004
theorem precision_lost_format :
    (do let a ← ofText [48, 46, 49]; let b ← ofText [48, 46, 50]
        pure (decide (format (add a b) = "0.30000000000000004"))) = some true := by decide +kernel

/-- the edge of the exact range: 2^53 - 1 = 9007199254740991 -/
example : add (ofNat 9007199254740990) (ofNat 1) = ofNat 9007199254740991 := by decide +kernel
example : sub (ofNat 9007199254740991) (ofNat 9007199254740990) = ofNat 1 := by decide +kernel

end F64

/-- **an update never alters a number it does not target**: C07's `update_frame` for an attribute holding a number,
    whose stored text stays as it is, digit for digit -/
theorem untargeted_number_kept (env env' : Env) (tok : Token) (acts : List Expr) (item : Item)
    (name digits : Bytes) (hclean : env.modified = [])
    (hnum : alookup name item = some (.n digits))
    (h : Eval.evalUpdate env (.update tok acts) = .ok env')
    (hname : ∀ a ∈ acts, ∀ op left right, a = Expr.action op left right →
      ∀ n, targetOf env left = some n → env.itemName n ≠ name) :
    alookup name (env'.apply item []) = some (.n digits) := by
  rw [update_frame env env' tok acts item [] name hclean h hname, hnum]

end Minidyn

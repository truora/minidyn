/-
  C12, continued — the comparison of numbers is an order: transitive, total, and a congruence for `eq`.
  Transitivity and congruence come from `cmp_common`: three numbers brought to one scale compare as integers;
  totality from `cmp_swap`.
-/
import Minidyn.Props.C12
namespace Minidyn
namespace F64

theorem scaled_rescale (x : F64) (e e' : Int) (h1 : e' ≤ e) (h2 : e ≤ x.exp) :
    scaled x e' = scaled x e * ((2 ^ (e - e').toNat : Nat) : Int) := by
  unfold scaled
  have hs : (x.exp - e').toNat = (x.exp - e).toNat + (e - e').toNat := by
    rw [← Int.toNat_add (Int.sub_nonneg.2 h2) (Int.sub_nonneg.2 h1), ← Int.add_sub_assoc, Int.sub_add_cancel]
  simp only [hs, Nat.shiftLeft_eq, Nat.pow_add, ← Nat.mul_assoc]
  split
  · rw [Int.neg_mul, Int.natCast_mul]
  · exact Int.natCast_mul _ _

theorem compare_mul_pos (a b k : Int) (hk : 0 < k) : compare (a * k) (b * k) = compare a b := by
  simp only [Int.compare_eq_ite_lt, Int.mul_lt_mul_right hk]

theorem cmp_at (a b : F64) (e : Int) (ha : e ≤ a.exp) (hb : e ≤ b.exp) :
    cmp a b = compare (scaled a e) (scaled b e) := by
  unfold cmp
  have hm : e ≤ min a.exp b.exp := Int.le_min.2 ⟨ha, hb⟩
  rw [scaled_rescale a _ e hm (Int.min_le_left _ _), scaled_rescale b _ e hm (Int.min_le_right _ _)]
  exact (compare_mul_pos _ _ _ (Int.natCast_pos.2 (Nat.two_pow_pos _))).symm

theorem cmp_common (a b c : F64) : ∃ x y z : Int,
    cmp a b = compare x y ∧ cmp b c = compare y z ∧ cmp a c = compare x z := by
  have ha : min a.exp (min b.exp c.exp) ≤ a.exp := Int.min_le_left _ _
  have hb : min a.exp (min b.exp c.exp) ≤ b.exp := Int.le_trans (Int.min_le_right _ _) (Int.min_le_left _ _)
  have hc : min a.exp (min b.exp c.exp) ≤ c.exp := Int.le_trans (Int.min_le_right _ _) (Int.min_le_right _ _)
  exact ⟨_, _, _, cmp_at a b _ ha hb, cmp_at b c _ hb hc, cmp_at a c _ ha hc⟩

theorem lt_trans (a b c : F64) (h1 : lt a b = true) (h2 : lt b c = true) : lt a c = true := by
  obtain ⟨x, y, z, hab, hbc, hac⟩ := cmp_common a b c
  simp only [lt, hab, hbc, hac, beq_iff_eq, Int.compare_eq_lt] at h1 h2 ⊢
  exact Int.lt_trans h1 h2

theorem le_trans (a b c : F64) (h1 : le a b = true) (h2 : le b c = true) : le a c = true := by
  obtain ⟨x, y, z, hab, hbc, hac⟩ := cmp_common a b c
  simp only [le, hab, hbc, hac, bne_iff_ne, Int.compare_ne_gt] at h1 h2 ⊢
  exact Int.le_trans h1 h2

theorem eq_trans (a b c : F64) (h1 : eq a b = true) (h2 : eq b c = true) : eq a c = true := by
  obtain ⟨x, y, z, hab, hbc, hac⟩ := cmp_common a b c
  simp only [eq, hab, hbc, hac, beq_iff_eq, Int.compare_eq_eq] at h1 h2 ⊢
  exact h1.trans h2

theorem le_total (a b : F64) : le a b = true ∨ le b a = true := by
  unfold le
  rw [← cmp_swap a b]
  cases cmp a b <;> decide

theorem cmp_congr_left (a a' b : F64) (h : eq a a' = true) : cmp a b = cmp a' b := by
  obtain ⟨x, y, z, haa, hab', hab⟩ := cmp_common a a' b
  simp only [eq, haa, beq_iff_eq, Int.compare_eq_eq] at h
  rw [hab, hab', h]

example : lt (ofNat 1) (ofNat 2) = true ∧ lt (ofNat 2) (ofNat 10) = true := by decide +kernel

end F64
end Minidyn

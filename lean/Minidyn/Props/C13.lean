/-
  Minidyn.Props.C13 — primary keys identify items faithfully.

  `encode_injective`: the key string of a (hash, range) pair determines both renderings, whatever bytes they contain
  (the separator and the escape character are escaped in the hash part).  `render_injective_*`: an S or N attribute is
  rendered as its text (nothing is proved about B).  So with `Props.C01` (the table is a map from key strings to items)
  two stored items with S or N keys are the same item iff their key attribute texts are equal.
  `getKey` refusing an item: theorems for the hash attribute only — missing (`missing_key_rejected`) and, where it is
  declared S, of another type or empty (`wrong_type_key_rejected`, `empty_key_rejected`); none for the range attribute
  or for a hash declared N or B.
  Known findings: a number key is identified by its text, not by its value (KF-C13-number-keys-by-text); an update may
  rewrite the key attributes of the stored item (KF-C13-update-changes-key).
-/
import Minidyn.Lemmas.Key
namespace Minidyn.Props.C13
open Minidyn.Key

/-- `escape` leaves no unescaped separator in the hash part.  The first byte of each side tells how the hash part
    begins: `46` if it is empty, `92` if it begins with an escaped byte, else that byte itself (neither of the two). -/
theorem escape_sep_injective : ∀ (h h' r r' : Bytes),
    escape h ++ 46 :: r = escape h' ++ 46 :: r' → h = h' ∧ r = r'
  | [], [], r, r', heq => ⟨rfl, (List.cons.inj heq).2⟩
  | [], c' :: cs', r, r', heq => by
    unfold escape at heq
    split at heq <;> simp_all
  | c :: cs, [], r, r', heq => by
    unfold escape at heq
    split at heq <;> simp_all
  | c :: cs, c' :: cs', r, r', heq => by
    unfold escape at heq
    split at heq <;> split at heq <;> simp only [List.cons_append, List.cons.injEq] at heq
    · obtain ⟨_, rfl, heq⟩ := heq
      have := escape_sep_injective cs cs' r r' heq
      exact ⟨by rw [this.1], this.2⟩
    · simp_all
    · simp_all
    · obtain ⟨rfl, heq⟩ := heq
      have := escape_sep_injective cs cs' r r' heq
      exact ⟨by rw [this.1], this.2⟩

theorem render_S (x : Bytes) : render (.s x) [83] = some x := rfl
theorem render_N (x : Bytes) : render (.n x) [78] = some x := rfl

theorem render_injective_S {x y : Bytes} (h : render (.s x) [83] = render (.s y) [83]) : x = y :=
  Option.some.inj h

theorem render_injective_N {x y : Bytes} (h : render (.n x) [78] = render (.n y) [78]) : x = y :=
  Option.some.inj h

theorem encode_injective (ks : KeySchema) (attrs : List (Bytes × Bytes)) (hr : ks.range ≠ []) (i j : Item) (k : Bytes)
    (hi : keyValue ks attrs i = .ok k) (hj : keyValue ks attrs j = .ok k) :
    itemValue attrs i ks.hash = itemValue attrs j ks.hash ∧ itemValue attrs i ks.range = itemValue attrs j ks.range := by
  have hre : ks.range.isEmpty = false := List.isEmpty_eq_false_iff.2 hr
  obtain ⟨a, h1, hi⟩ := keyValue_ok_iff.1 hi
  obtain ⟨a', h2, hj⟩ := keyValue_ok_iff.1 hj
  simp only [hre, Bool.false_eq_true, if_false] at hi hj
  obtain ⟨b, h3, rfl⟩ := hi
  obtain ⟨b', h4, hj⟩ := hj
  obtain ⟨rfl, rfl⟩ := escape_sep_injective a a' b b' (by simpa using hj)
  rw [keyAttrValue_ok h1, keyAttrValue_ok h2, keyAttrValue_ok h3, keyAttrValue_ok h4]
  exact ⟨rfl, rfl⟩

theorem encode_injective_hashonly (ks : KeySchema) (attrs : List (Bytes × Bytes)) (hr : ks.range = []) (i : Item) (k : Bytes)
    (hi : keyValue ks attrs i = .ok k) : itemValue attrs i ks.hash = .ok k := by
  obtain ⟨a, h1, hi⟩ := keyValue_ok_iff.1 hi
  rw [hr] at hi
  exact hi ▸ keyAttrValue_ok h1

/-- an item without the hash attribute is refused by a primary schema -/
theorem missing_key_rejected (ks : KeySchema) (attrs : List (Bytes × Bytes)) (item : Item)
    (hs : ks.secondary = false) (hm : alookup ks.hash item = none) : getKey ks attrs item = .error .missing := by
  simp [getKey, keyValue, keyAttrValue, itemValue, hm, hs, bind, Except.bind]

/-- a hash attribute declared S that holds a value of another type is refused -/
theorem wrong_type_key_rejected (ks : KeySchema) (attrs : List (Bytes × Bytes)) (item : Item) (v : AV)
    (hv : alookup ks.hash item = some v) (hd : alookup ks.hash attrs = some [83]) (hns : ∀ x, v ≠ .s x) :
    getKey ks attrs item = .error .invalidType := by
  have : render v [83] = none := by
    cases v with
    | s x => exact absurd rfl (hns x)
    | _ => rfl
  simp [getKey, keyValue, keyAttrValue, itemValue, hv, hd, this, bind, Except.bind]

/-- a hash attribute declared S that holds the empty string is refused by a primary schema (fix 001b480) -/
theorem empty_key_rejected (ks : KeySchema) (attrs : List (Bytes × Bytes)) (item : Item)
    (hs : ks.secondary = false) (hv : alookup ks.hash item = some (.s [])) (hd : alookup ks.hash attrs = some [83]) :
    getKey ks attrs item = .error .invalidType := by
  simp [getKey, keyValue, keyAttrValue, itemValue, hv, hd, hs, render, emptyValue, bind, Except.bind, throw, throwThe,
    MonadExceptOf.throw]

/-- C04 needs this: a read resumed from the key "" would start over, and pagination would not end -/
theorem key_nonempty (ks : KeySchema) (attrs : List (Bytes × Bytes)) (item : Item) (k : Bytes)
    (hs : ks.secondary = false) (h : getKey ks attrs item = .ok k) : k ≠ [] := by
  rw [getKey_primary hs] at h
  obtain ⟨a, h1, hk⟩ := keyValue_ok_iff.1 h
  split at hk
  · exact hk ▸ keyAttrValue_nonempty hs h1
  · obtain ⟨b, _, rfl⟩ := hk; simp

/-- ("a.b","c") and ("a","b.c") have different key strings (one string before fix b32f972) -/
example : (keyValue { hash := [104], range := [114] } [([104], [83]), ([114], [83])] [([104], .s [97, 46, 98]), ([114], .s [99])]).toOption
    ≠ (keyValue { hash := [104], range := [114] } [([104], [83]), ([114], [83])] [([104], .s [97]), ([114], .s [98, 46, 99])]).toOption := by
  decide +kernel

end Minidyn.Props.C13

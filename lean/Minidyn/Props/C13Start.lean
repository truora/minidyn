/-
  Minidyn.Props.C13Start — the validation of ExclusiveStartKey and pagination fit together.

  `Client.startKeyOk` (the model of `Table.ValidateStartKey`) rejects a start key that is no key of the table.
  `lek_valid_start`: a LastEvaluatedKey that a read of the table itself reports passes that validation, for a `Keyed`
  table that has no index named "" (`hnoix`).  No theorem gives `hnoix` for reachable states, and it is needed: the
  validation looks IndexName "" up among the indexes (core/table.go), so with a global index named "" the
  LastEvaluatedKey of the first page of a Scan of the table can be refused by the next request.
  `lek_valid_start_ix`: the same for a read through an index, whose key carries the index key too.
  (`C04.paginate_complete` is about the reads of `Model.Table`; the client puts the validation in front of them.)
  `malformed_start_rejected`: a non-empty start key from which no table key can be built is rejected by the client,
  whatever else the request says.
-/
import Minidyn.Props.C04Paging
import Minidyn.Props.C04Index
import Minidyn.Lemmas.Client
namespace Minidyn.Props.C13Start
open Minidyn.Table Minidyn.Props.C01 Minidyn.Props.C02 Minidyn.Props.C04

theorem lek_valid_start (t : Table) (m : Matcher) (q : Query) (hinv : TableInv t) (hkeyed : Keyed t)
    (hidx : q.index = []) (hnoix : alookup [] t.indexes = none)
    (ha : ∀ k item, alookup k t.data = some item → Answers m q item)
    (r : SearchResult) (hr : t.searchData m q = .ok r) :
    Client.startKeyOk t (withStart q r.lastKey) = true := by
  obtain ⟨r', hr', _, hlek⟩ := page_spec t m q hinv (order_chain t hinv q.forward) hidx ha
  cases hr.symm.trans hr'
  cases hstop : (cut t m q 0 (afterKeys t q)).2 with
  | false => simp [Client.startKeyOk, hlek, lekOf, hstop]
  | true =>
    obtain ⟨pre, kn, rest, hP, hA⟩ := cut_stopped_last t m q _ 0 hstop
    obtain ⟨item, hl, hkey⟩ := lekOf_stopped t m q hinv hkeyed hstop hP hA
    simp [Client.startKeyOk, hlek, hl, hkey, hidx, hnoix, Except.toBool]

theorem lek_valid_start_ix (t : Table) (m : Matcher) (q : Query) (ix : Index)
    (hix : alookup q.index t.indexes = some ix) (hne : q.index.isEmpty = false)
    (hkeyed : Keyed t) (hinv : C03.IndexInv ix) (hag : C03.IndexAgree t ix)
    (ha : ∀ k item, alookup k t.data = some item → Answers m q item)
    (hstart : (startIx t ix q).key.isEmpty = false → (startIx t ix q).indexKey.isEmpty = false)
    (huniq : (startIx t ix q).key.isEmpty = false → ∀ r ∈ ix.refs, r.1 = (startIx t ix q).key → r.2 = (startIx t ix q).indexKey)
    (r : SearchResult) (hr : t.searchData m q = .ok r) :
    Client.startKeyOk t (withStart q r.lastKey) = true := by
  obtain ⟨r', hr', _, hlek⟩ := page_spec_ix t m q ix hix hne hinv (refs_stored hinv hag ha) hstart huniq
  cases hr.symm.trans hr'
  cases hstop : (cut t m q 0 ((afterRefs t ix q).map (·.1))).2 with
  | false => simp [Client.startKeyOk, hlek, lekOfIx, hstop]
  | true =>
    obtain ⟨pre, kn, rest, hP, hA⟩ := cut_stopped_last t m q _ 0 hstop
    obtain ⟨⟨pk, ik⟩, hmem, rfl⟩ := List.mem_map.1 (hA ▸ List.mem_append_right pre (List.mem_cons_self ..))
    obtain ⟨item, hl, hmk, hmi, hikne⟩ := lekOfIx_stopped t m q ix hkeyed hinv hag hstop hP hmem
    simp [Client.startKeyOk, hlek, hl, hmk, hmi, hix, hikne, Except.toBool]

theorem malformed_start_rejected (c : Client) (table : Bytes) (t : Table) (q : Query) (ex : Exprs) (e : KeyErr)
    (hne : q.startKey ≠ []) (hbad : Key.getKey t.schema t.attrs q.startKey = .error e)
    (ht : alookup table c.tables = some t) :
    ∃ o, Client.searchOnce c table q ex = .error o := by
  have hok : Client.startKeyOk t q = false := by
    simp [Client.startKeyOk, List.isEmpty_eq_false_iff.2 hne, hbad, Except.toBool]
  rcases Client.searchOnce_cases c table q ex with ⟨t', _, _, ht', hs, _, _⟩ | ⟨_, he⟩ | ⟨_, he⟩
  · rw [ht] at ht'; cases ht'; rw [hok] at hs; cases hs
  · exact ⟨_, he c.sdk⟩
  · exact ⟨_, he c.sdk⟩

/-- in a table with hash attribute "h": the key of a stored item validates, a start key without "h" does not -/
example :
    let t : Table := ({ name := [116], schema := { hash := [104] }, attrs := [([104], [83])] } : Table).setItem [97] [([104], .s [97])]
      |>.setItem [98] [([104], .s [98])]
    Client.startKeyOk t { startKey := [([104], .s [97])] } = true ∧ Client.startKeyOk t { startKey := [([122], .s [97])] } = false := by
  decide

end Minidyn.Props.C13Start

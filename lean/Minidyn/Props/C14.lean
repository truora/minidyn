/-
  C14 — stored data is isolated from caller-owned memory.  Memory maps locations to scalar contents; a value is a tree
  whose nodes carry the locations of the mutable cells of an attribute value (`*string`, `*bool`, `[]byte` backing
  arrays, slice and map headers).  `deepCopy` is a mapper whose every field store is `fresh` (allocate and copy) or
  `recursive` (the mapper on the children), the two modes `Tie.noSharing` admits.  `copy_isolated`: a later write
  through a cell of the original or of any older tree does not change what the copy reads (input→stored on a write,
  stored→result on a read); "reads" is `V.read`, the contents in order, not the shape.  No traversal with a `share`
  store is modelled.  Trusted: that the Go mappers are such a traversal; `Tie/Sharing` checks how gofacts classifies
  their field stores and the fingerprints of ten copy helpers, and the poke family of the check tests it.
-/
namespace Minidyn.Props.C14

inductive V where
  | node (loc : Nat) (kids : List V)

mutual
  def V.locs : V → List Nat
    | .node l ks => l :: V.locsList ks
  def V.locsList : List V → List Nat
    | [] => []
    | k :: ks => V.locs k ++ V.locsList ks
end

abbrev Mem := Nat → Nat

mutual
  /-- the contents in preorder; the shape of the tree is forgotten -/
  def V.read (m : Mem) : V → List Nat
    | .node l ks => m l :: V.readList m ks
  def V.readList (m : Mem) : List V → List Nat
    | [] => []
    | k :: ks => V.read m k ++ V.readList m ks
end

def write (m : Mem) (l x : Nat) : Mem := fun j => if j = l then x else m j

structure Out (α : Type) where
  val : α
  mem : Mem
  next : Nat

mutual
  /-- Allocation is a counter: the new cell is `next`, which lies above every location in use (hypotheses `l < next`) -/
  def deepCopy (m : Mem) (next : Nat) : V → Out V
    | .node l ks =>
      let r := deepCopyList (write m next (m l)) (next + 1) ks
      ⟨.node next r.val, r.mem, r.next⟩
  def deepCopyList (m : Mem) (next : Nat) : List V → Out (List V)
    | [] => ⟨[], m, next⟩
    | k :: ks =>
      let r1 := deepCopy m next k
      let r2 := deepCopyList r1.mem r1.next ks
      ⟨r1.val :: r2.val, r2.mem, r2.next⟩
end

mutual
  theorem read_keeps (m m' : Mem) : (v : V) → (∀ l ∈ v.locs, m' l = m l) → v.read m' = v.read m
    | .node l ks, h => by
      rw [V.read, V.read, h l List.mem_cons_self, readList_keeps m m' ks fun x hx => h x (List.mem_cons_of_mem _ hx)]
  theorem readList_keeps (m m' : Mem) : (ks : List V) → (∀ l ∈ V.locsList ks, m' l = m l) → V.readList m' ks = V.readList m ks
    | [], _ => rfl
    | k :: ks, h => by
      rw [V.readList, V.readList, read_keeps m m' k fun x hx => h x (List.mem_append_left _ hx),
        readList_keeps m m' ks fun x hx => h x (List.mem_append_right _ hx)]
end

theorem write_of_ne (m : Mem) {l j : Nat} (x : Nat) (h : j ≠ l) : write m l x j = m j := if_neg h

/-- **writing a cell that a tree does not contain does not change what the tree reads** -/
theorem write_isolated (m : Mem) (v : V) (l x : Nat) (h : l ∉ v.locs) : v.read (write m l x) = v.read m :=
  read_keeps m (write m l x) v fun _ hj => write_of_ne m x fun e => h (e ▸ hj)

/-- The induction hypothesis of `deepCopy_ok`, over lists of locations and of contents so that one structure serves a
    tree and a list of trees.  `same` needs the input below `next`, or the copy overwrites cells it has yet to read. -/
structure CopyOk (m : Mem) (next : Nat) (locsIn readIn locsOut readOut : List Nat) (m' : Mem) (next' : Nat) : Prop where
  grows : next ≤ next'
  fresh : ∀ l ∈ locsOut, next ≤ l ∧ l < next'
  keeps : ∀ l, l < next → m' l = m l
  same : (∀ l ∈ locsIn, l < next) → readOut = readIn

mutual
  theorem deepCopy_ok (m : Mem) (next : Nat) : (v : V) →
      CopyOk m next v.locs (v.read m) (deepCopy m next v).val.locs ((deepCopy m next v).val.read (deepCopy m next v).mem)
        (deepCopy m next v).mem (deepCopy m next v).next
    | .node l ks => by
      have ih := deepCopyList_ok (write m next (m l)) (next + 1) ks
      simp only [deepCopy, V.locs, V.read]
      generalize deepCopyList (write m next (m l)) (next + 1) ks = r at ih
      -- the one new cell `next` is below the children's allocator position and is none of the old cells
      have hnew (x : Nat) (hx : x < next) : write m next (m l) x = m x := write_of_ne m _ (Nat.ne_of_lt hx)
      refine ⟨Nat.le_of_succ_le ih.grows, ?_, fun x hx => (ih.keeps x (Nat.lt_succ_of_lt hx)).trans (hnew x hx), fun hin => ?_⟩
      · intro x hx
        rcases List.mem_cons.1 hx with rfl | hx
        · exact ⟨Nat.le_refl _, ih.grows⟩
        · exact ⟨Nat.le_of_succ_le (ih.fresh x hx).1, (ih.fresh x hx).2⟩
      · have hkids : ∀ x ∈ V.locsList ks, x < next := fun x hx => hin x (List.mem_cons_of_mem _ hx)
        rw [ih.same fun x hx => Nat.lt_succ_of_lt (hkids x hx), ih.keeps next (Nat.lt_succ_self _)]
        -- the children are read in the memory before the copy
        exact congr (congrArg _ (if_pos rfl)) (readList_keeps _ _ ks fun x hx => hnew x (hkids x hx))
  theorem deepCopyList_ok (m : Mem) (next : Nat) : (ks : List V) →
      CopyOk m next (V.locsList ks) (V.readList m ks) (V.locsList (deepCopyList m next ks).val)
        (V.readList (deepCopyList m next ks).mem (deepCopyList m next ks).val) (deepCopyList m next ks).mem (deepCopyList m next ks).next
    | [] => ⟨Nat.le_refl _, fun _ h => (nomatch h), fun _ _ => rfl, fun _ => rfl⟩
    | k :: ks => by
      have h1 := deepCopy_ok m next k
      have h2 := deepCopyList_ok (deepCopy m next k).mem (deepCopy m next k).next ks
      simp only [deepCopyList, V.locsList, V.readList]
      generalize deepCopy m next k = r1 at h1 h2
      generalize deepCopyList r1.mem r1.next ks = r2 at h2
      refine ⟨Nat.le_trans h1.grows h2.grows, ?_,
        fun x hx => (h2.keeps x (Nat.lt_of_lt_of_le hx h1.grows)).trans (h1.keeps x hx), fun hin => ?_⟩
      · intro x hx
        rcases List.mem_append.1 hx with hx | hx
        · exact ⟨(h1.fresh x hx).1, Nat.lt_of_lt_of_le (h1.fresh x hx).2 h2.grows⟩
        · exact ⟨Nat.le_trans h1.grows (h2.fresh x hx).1, (h2.fresh x hx).2⟩
      · have hk : ∀ x ∈ k.locs, x < next := fun x hx => hin x (List.mem_append_left _ hx)
        have hks : ∀ x ∈ V.locsList ks, x < next := fun x hx => hin x (List.mem_append_right _ hx)
        rw [h2.same fun x hx => Nat.lt_of_lt_of_le (hks x hx) h1.grows, ← h1.same hk]
        -- the copy of the first child is not disturbed by the copies of the others, nor the others by it
        exact congr (congrArg _ (read_keeps _ _ _ fun x hx => h2.keeps x (h1.fresh x hx).2))
          (readList_keeps _ _ _ fun x hx => h1.keeps x (hks x hx))
end

theorem deepCopy_same (m : Mem) (next : Nat) (v : V) (h : ∀ l ∈ v.locs, l < next) :
    (deepCopy m next v).val.read (deepCopy m next v).mem = v.read m := (deepCopy_ok m next v).same h

theorem deepCopy_fresh (m : Mem) (next : Nat) (v : V) : ∀ l ∈ (deepCopy m next v).val.locs, next ≤ l :=
  fun l hl => ((deepCopy_ok m next v).fresh l hl).1

theorem deepCopy_disjoint (m : Mem) (next : Nat) (v old : V) (h : ∀ l ∈ old.locs, l < next) :
    ∀ l ∈ (deepCopy m next v).val.locs, l ∉ old.locs :=
  fun l hl hold => Nat.not_le_of_gt (h l hold) (deepCopy_fresh m next v l hl)

/-- **C14**: after the copy, a write through ANY cell of the original (or of any older tree) leaves the contents of
    the copy unchanged — where the mapper is `deepCopy`, the stored item does not see the caller's later writes, and a
    result handed to the caller does not reach into the store -/
theorem copy_isolated (m : Mem) (next : Nat) (v old : V) (hv : ∀ l ∈ v.locs, l < next) (hold : ∀ l ∈ old.locs, l < next)
    (l x : Nat) (hl : l ∈ old.locs) :
    (deepCopy m next v).val.read (write (deepCopy m next v).mem l x) = v.read m :=
  (write_isolated _ _ l x fun hin => deepCopy_disjoint m next v old hold l hin hl).trans (deepCopy_same m next v hv)

/-- Why a cell in common with the caller would matter: a write to the cell of a one-node tree changes what it reads.
    Neither `deepCopy` nor a `share` store occurs in the statement. -/
theorem share_leaks (m : Mem) (l x : Nat) (hx : x ≠ m l) : (V.node l []).read (write m l x) ≠ (V.node l []).read m := by
  simp [V.read, V.readList, write, hx]

/-- non-vacuity: a two-level tree, copied at allocator position 10, survives a write to its original root -/
example : let v := V.node 3 [V.node 4 [], V.node 5 []]
    let m : Mem := fun j => j * 7
    (deepCopy m 10 v).val.read (write (deepCopy m 10 v).mem 3 999) = [21, 28, 35] := by decide

end Minidyn.Props.C14

/-
  Minidyn.Props.C15 — emulated failures fail every data call, change nothing, are reversible.

  With a failure condition active PutItem, UpdateItem, DeleteItem, GetItem, Query, TransactWriteItems and (v2 client
  only, the model answers `.na` for v1 first) BatchGetItem answer the configured error and return the client unchanged
  (`failing_*`).  BatchWriteItem need not answer it: an empty batch and one rejected by validation do not, and under the
  internal-server failure the answer is a list of unprocessed requests; only its state is covered
  (`failing_batchWrite_state`), and `batchWrite_go_unprocessed` counts the unprocessed requests of the helper
  `batchWrite.go`.  `IsDataOp` has no `.pages` and no `.batchGet`: `failing_run_unchanged` and `reversible` say nothing
  of runs that contain them.
-/
import Minidyn.Lemmas.Client
namespace Minidyn.Props.C15
open Minidyn.Client

variable {c : Client} {f : Failure}

theorem failing_put (h : c.failure = some f) (t item cond ex) : putItem c t item cond ex = (c, failureErr f) := by
  simp only [putItem, h]

theorem failing_update (h : c.failure = some f) (t key expr cond ex rf) :
    updateItem c t key expr cond ex rf = (c, failureErr f) := by simp only [updateItem, h]

theorem failing_delete (h : c.failure = some f) (t key cond ex ro) : deleteItem c t key cond ex ro = (c, failureErr f) := by
  simp only [deleteItem, h]

theorem failing_get (h : c.failure = some f) (t key) : getItem c t key = (c, failureErr f) := by simp only [getItem, h]

theorem failing_query (h : c.failure = some f) (t q ex) : query c t q ex = (c, failureErr f) := by
  simp only [query, searchOnce, h]

theorem failing_transact (h : c.failure = some f) : step c .transactWrite = (c, failureErr f) := by dsimp only [step]; rw [h]

theorem failing_batchGet (h : c.failure = some f) (hs : c.sdk = .v2) (reqs) : batchGet c reqs = (c, failureErr f) := by
  simp only [batchGet, hs, h]
  rfl

theorem failing_applyWrite (h : c.failure = some f) (t : Bytes) (r : WriteReq) (hr : r ≠ .neither) :
    applyWrite c t r = (c, failureErr f) := by
  cases r with
  | put item => exact failing_put h ..
  | both item k => exact failing_put h ..
  | del key => exact failing_delete h ..
  | neither => exact absurd rfl hr

theorem failing_applyWrite_state (h : c.failure = some f) (t : Bytes) (r : WriteReq) : (applyWrite c t r).1 = c := by
  by_cases hr : r = .neither
  · rw [hr]; rfl
  · rw [failing_applyWrite h t r hr]

theorem failing_batchWrite_state (h : c.failure = some f) (reqs) : (batchWrite c reqs).1 = c :=
  batchWrite_inv (P := (· = c)) (fun _ t r hc => by rw [hc]; exact failing_applyWrite_state h t r) c reqs rfl

theorem sum_ainsert_snoc (t : Bytes) (r : WriteReq) (unp : List (Bytes × List WriteReq)) :
    ((ainsert t ((alookup t unp).getD [] ++ [r]) unp).map (·.2.length)).sum = (unp.map (·.2.length)).sum + 1 := by
  generalize hv : (alookup t unp).getD [] ++ [r] = v
  induction unp with
  | nil => subst hv; rfl
  | cons p qs ih =>
    obtain ⟨k0, v0⟩ := p
    rw [alookup_cons] at hv
    rw [ainsert]
    split at hv
    · next hk => subst hv hk; simp [Nat.add_right_comm]
    · next hk => rw [if_neg (by simpa using Ne.symm hk)]; simp only [List.map_cons, List.sum_cons, ih hv, Nat.add_assoc]

/-- Under the internal-server failure `batchWrite.go`, given no `.neither` request, changes nothing and reports as many
    more unprocessed requests as it was given.  A count only: which requests are in `unp'` is not stated, and there is
    no such theorem for `batchWrite`. -/
theorem batchWrite_go_unprocessed (h : c.failure = some .internalServer) :
    ∀ (flat : List (Bytes × WriteReq)) (unp : List (Bytes × List WriteReq)),
      (∀ p ∈ flat, p.2 ≠ .neither) →
      ∃ unp', batchWrite.go c unp flat = (c, .batchWrite unp') ∧
        (unp'.map (·.2.length)).sum = (unp.map (·.2.length)).sum + flat.length := by
  intro flat
  induction flat with
  | nil => intro unp _; exact ⟨unp, rfl, rfl⟩
  | cons p rest ih =>
    intro unp hall
    obtain ⟨t, r⟩ := p
    have hstep : applyWrite c t r = (c, .err .internalServer none) := by
      rw [failing_applyWrite h t r (hall (t, r) (List.mem_cons_self ..))]; rfl
    simp only [batchWrite.go, hstep]
    obtain ⟨unp', h1, h2⟩ := ih (ainsert t ((alookup t unp).getD [] ++ [r]) unp) (fun p hp => hall p (List.mem_cons_of_mem _ hp))
    exact ⟨unp', h1, by rw [h2, sum_ainsert_snoc, List.length_cons, Nat.add_assoc, Nat.add_comm 1]⟩

inductive IsDataOp : Op → Prop
  | put (t i c e) : IsDataOp (.put t i c e)
  | update (t k x c e r) : IsDataOp (.update t k x c e r)
  | delete (t k c e r) : IsDataOp (.delete t k c e r)
  | get (t k) : IsDataOp (.get t k)
  | query (t q e) : IsDataOp (.query t q e)
  | batchWrite (r) : IsDataOp (.batchWrite r)
  | transact : IsDataOp .transactWrite

theorem failing_step_unchanged (h : c.failure = some f) {op : Op} (hd : IsDataOp op) : (step c op).1 = c := by
  cases hd with
  | put => exact congrArg Prod.fst (failing_put h ..)
  | update => exact congrArg Prod.fst (failing_update h ..)
  | delete => exact congrArg Prod.fst (failing_delete h ..)
  | get => exact getItem_state ..
  | query => exact query_state ..
  | batchWrite r => exact failing_batchWrite_state h r
  | transact => rw [failing_transact h]

/-- **C15**: a run of `IsDataOp` operations (no `.pages`, no `.batchGet`) under an active failure changes nothing -/
theorem failing_run_unchanged (h : c.failure = some f) : ∀ ops : List Op, (∀ op ∈ ops, IsDataOp op) → (run c ops).1 = c :=
  fun ops hall => run_inv (P := (· = c)) ops c (fun _ op ho hc => by rw [hc]; exact failing_step_unchanged h (hall op ho)) rfl

/-- **C15**: activating a failure, issuing `IsDataOp` operations and deactivating it gives back the client -/
theorem reversible (c0 : Client) (f : Failure) (ops : List Op) (hall : ∀ op ∈ ops, IsDataOp op) (h0 : c0.failure = none) :
    (step (run (step c0 (.setFailure (some f))).1 ops).1 (.setFailure none)).1 = c0 := by
  rw [failing_run_unchanged (c := (step c0 (.setFailure (some f))).1) (f := f) rfl ops hall]
  -- the failure field, set and cleared again, is `none` as it was
  cases c0
  cases h0
  rfl

end Minidyn.Props.C15

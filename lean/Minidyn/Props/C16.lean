/-
  Minidyn.Props.C16 — DynamoDB usage restrictions are detected.

  * reserved words: every word of the table regenerated from token.go (`Generated.reservedWords`), in any letter case,
    is rejected by `evalIdentifier` in a top-level name position (`reserved_rejected`); that table is, word for word,
    the 573-word copy `reservedSnapshot` (`reserved_table_is_snapshot`), so a word dropped from token.go is noticed;
  * placeholders: a supplied `#name` / `:value` that does not occur in the expressions, or whose key is malformed,
    fails `validateExprAttrs` (`rejected_of_bad` and its instances); a compliant set of placeholders passes
    (`compliant_accepted`); a `:value` that is used but not supplied is rejected (`unsupplied_value_rejected`);
  * batches: more than 25 write requests, or a request that is neither/both put and delete, is a ValidationException
    and nothing is applied (`Props.C19.batchWrite_rules`).
  Known findings: "used" is a substring test, so `:a` counts as used by `:ab` (`prefix_placeholder_accepted`); a `#name`
  that is used but not supplied is read as an attribute of that very name (`unsupplied_name_accepted`,
  KF-C16-unsupplied-placeholder); a reserved word after a dot is accepted (KF-C16-reserved-after-dot); key-condition
  shapes are not checked (KF-C16-key-condition-shape).
-/
import Minidyn.Model.Client
import Minidyn.Props.ReservedSnapshot
namespace Minidyn.Props.C16
open Minidyn.Client

theorem reserved_rejected (tok : Token) (env : Env)
    (h : Eval.toUpperAscii tok.lit ∈ Generated.reservedWords) :
    Eval.evalIdentifier tok env true = .error "reserved word" := by
  have : Eval.isReserved tok.lit = true := List.contains_iff_mem.2 h
  simp only [Eval.evalIdentifier, this, Bool.and_self, if_true]; rfl

theorem non_reserved_looked_up (tok : Token) (env : Env) (h : Eval.isReserved tok.lit = false) :
    Eval.evalIdentifier tok env true = env.get tok.lit := by
  simp [Eval.evalIdentifier, h]

/-- both lists are sorted, so they are compared as lists: no word has been dropped from the table and none added -/
theorem reserved_table_is_snapshot : Generated.reservedWords = reservedSnapshot := rfl

theorem reserved_snapshot_size : reservedSnapshot.length = 573 := by decide +kernel

theorem reserved_snapshot_complete : ∀ w ∈ reservedSnapshot, w ∈ Generated.reservedWords := by
  intro w hw; rw [reserved_table_is_snapshot]; exact hw

/-- the shortcut for a blank text without placeholders changes nothing: both tests hold of empty lists -/
theorem validateExprAttrs_eq (ex : Exprs) (exprs : List Bytes) : validateExprAttrs ex exprs =
    (ex.names.all (fun p => Bytes.isInfixOf p.1 (joinSpace exprs) && placeholderOk 35 p.1) &&
     ex.values.all (fun p => Bytes.isInfixOf p.1 (joinSpace exprs) && placeholderOk 58 p.1)) := by
  simp only [validateExprAttrs]
  split
  · rename_i h
    simp only [Bool.and_eq_true, List.isEmpty_iff] at h
    rw [h.1.2, h.2]; rfl
  · rfl

theorem rejected_of_bad (ex : Exprs) (exprs : List Bytes)
    (h : (∃ p ∈ ex.names, (Bytes.isInfixOf p.1 (joinSpace exprs) && placeholderOk 35 p.1) = false) ∨
         (∃ p ∈ ex.values, (Bytes.isInfixOf p.1 (joinSpace exprs) && placeholderOk 58 p.1) = false)) :
    validateExprAttrs ex exprs = false := by
  rw [validateExprAttrs_eq, Bool.and_eq_false_iff, List.all_eq_false, List.all_eq_false]
  simpa only [Bool.not_eq_true] using h

theorem unused_name_rejected (ex : Exprs) (exprs : List Bytes) (k v : Bytes) (hk : (k, v) ∈ ex.names)
    (hunused : Bytes.isInfixOf k (joinSpace exprs) = false) : validateExprAttrs ex exprs = false :=
  rejected_of_bad ex exprs (.inl ⟨(k, v), hk, by simp [hunused]⟩)

theorem malformed_name_rejected (ex : Exprs) (exprs : List Bytes) (k v : Bytes) (hk : (k, v) ∈ ex.names)
    (hbad : placeholderOk 35 k = false) : validateExprAttrs ex exprs = false :=
  rejected_of_bad ex exprs (.inl ⟨(k, v), hk, by simp [hbad]⟩)

theorem unused_value_rejected (ex : Exprs) (exprs : List Bytes) (k : Bytes) (v : AV) (hk : (k, v) ∈ ex.values)
    (hunused : Bytes.isInfixOf k (joinSpace exprs) = false) : validateExprAttrs ex exprs = false :=
  rejected_of_bad ex exprs (.inr ⟨(k, v), hk, by simp [hunused]⟩)

theorem compliant_accepted (ex : Exprs) (exprs : List Bytes)
    (hn : ∀ p ∈ ex.names, Bytes.isInfixOf p.1 (joinSpace exprs) = true ∧ placeholderOk 35 p.1 = true)
    (hv : ∀ p ∈ ex.values, Bytes.isInfixOf p.1 (joinSpace exprs) = true ∧ placeholderOk 58 p.1 = true) :
    validateExprAttrs ex exprs = true := by
  rw [validateExprAttrs_eq, Bool.and_eq_true, List.all_eq_true, List.all_eq_true]
  simpa only [Bool.and_eq_true] using And.intro hn hv

/-- `:a` is supplied, only `:ab` is used (`v = :ab`), and the request passes -/
theorem prefix_placeholder_accepted :
    validateExprAttrs { values := [([58, 97], .s [120]), ([58, 97, 98], .s [120])] } [[118, 32, 61, 32, 58, 97, 98]] = true := by
  decide

/-- non-vacuity of `reserved_rejected`: "name", "Name" and "NAME" -/
example : Eval.isReserved [110, 97, 109, 101] = true ∧ Eval.isReserved [78, 97, 109, 101] = true ∧ Eval.isReserved [78, 65, 77, 69] = true := by
  decide +kernel

/-- a `:value` placeholder that the request does not supply: neither condition nor update is evaluated (fix 464433d) -/
theorem unsupplied_value_rejected (expr : Bytes) (item : Item) (names : List (Bytes × Bytes)) (values : Item)
    (p : Bytes) (hp : p ∈ Interp.valuePlaceholders expr) (hv : ahas p values = false) :
    Interp.langMatch expr item names values = .error .syntax ∧ Interp.langUpdate expr item names values = .error .syntax := by
  have hu : Interp.undefinedValue expr values = true := by
    unfold Interp.undefinedValue
    rw [List.any_eq_true]
    exact ⟨p, hp, by simp [hv]⟩
  simp [Interp.langMatch, Interp.langUpdate, hu]

/-- non-vacuity: `v <> :m` uses `:m` -/
example : [58, 109] ∈ Interp.valuePlaceholders [118, 32, 60, 62, 32, 58, 109] := by decide

/-- the witness of KF-C16-unsupplied-placeholder, on one client: a condition that uses `#n` is evaluated although the
    request supplies no name for it — it is taken for an attribute literally named `#n`, which the item lacks, and the
    conditional PutItem succeeds -/
theorem unsupplied_name_accepted :
    let c0 : Client := (createTable { sdk := .v2 } { table := [116], key := { hash := ([104], [83]) }, payPerRequest := true }).1
    (match (putItem c0 [116] [([104], .s [97]), ([118], .s [50])] (some (Bytes.ofString "attribute_not_exists(#n)")) {}).2 with | .ok => true | _ => false) = true := by
  decide +kernel

end Minidyn.Props.C16

/-
  C17 — the SDK v1 and SDK v2 clients are behaviourally equivalent.

  Both Go clients are modelled by one `Client` with an `sdk` field.  Not covered, the operations on which the two
  differ (`isDifferencePoint`): BatchGetItem (the v1 client has none, KF-C17-v1-no-batchget), UpdateItem asking for
  the old item on a failed condition (only v2 returns it, KF-C17-v1-no-return-on-condition-failure), paginated reads
  (the next request is built from the mapped key; tied to the code by the correspondence check only).  Elsewhere the
  v2 step is the v1 step with every returned item passed through the v2 output mapper, and the outputs are identical
  when no returned value is an empty binary, list, map or set (KF-C10-v2-empty-as-null).
-/
import Minidyn.Lemmas.Client
import Minidyn.Props.C10
namespace Minidyn
namespace Client
open Minidyn.Props.C10

def withSdk (c : Client) (s : Sdk) : Client := { c with sdk := s }

theorem withSdk_tables (c : Client) (s : Sdk) : (c.withSdk s).tables = c.tables := rfl
theorem withSdk_failure (c : Client) (s : Sdk) : (c.withSdk s).failure = c.failure := rfl
theorem withSdk_sdk (c : Client) (s : Sdk) : (c.withSdk s).sdk = s := rfl
theorem withSdk_matcher (c : Client) (s : Sdk) (t : Bytes) (ex : Exprs) : matcher (c.withSdk s) t ex = matcher c t ex := rfl
theorem withSdk_updater (c : Client) (s : Sdk) (t e : Bytes) (ex : Exprs) :
    updater (c.withSdk s) t e ex = updater c t e ex := rfl

def mapOut (f : Item → Item) : Out → Out
  | .item it => .item (it.map f)
  | .search items n lek => .search (items.map f) n (f lek)
  | .err cls it => .err cls (it.map f)
  | o => o

def isDifferencePoint : Op → Bool
  | .batchGet _ => true
  | .update _ _ _ _ _ retOnFail => retOnFail
  | .pages _ _ _ _ _ => true
  | _ => false

theorem setTable_withSdk (c : Client) (s : Sdk) (n : Bytes) (t : Table) :
    setTable (c.withSdk s) n t = (setTable c n t).withSdk s := rfl

def mapRes (s : Sdk) (g : Item → Item) (r : Client × Out) : Client × Out := (r.1.withSdk s, mapOut g r.2)

theorem withTable_sdk (c : Client) (s : Sdk) (g : Item → Item) (n : Bytes) {f f' : Table → Client × Out}
    (h : ∀ t, f' t = mapRes s g (f t)) : withTable (c.withSdk s) n f' = mapRes s g (withTable c n f) := by
  unfold withTable
  rw [withSdk_tables]
  cases alookup n c.tables with
  | none => rfl
  | some t => exact h t

/-- `false`: the write does not ask for the old item on a failed condition, so its errors carry no item and `mapOut`
    leaves them alone; the flavour enters through the answer `out` of the successful case only. -/
theorem write_sdk {α} (c : Client) (s : Sdk) (g : Item → Item) (table : Bytes) (ex : Exprs) (exprs : List Bytes)
    (f : Table → Except Table.WriteErr α) (tbl : α → Table) (out out' : α → Out) (hout : ∀ a, out' a = mapOut g (out a)) :
    write (c.withSdk s) table ex exprs false f tbl out' = mapRes s g (write c table ex exprs false f tbl out) := by
  unfold write
  rw [withSdk_failure]
  cases c.failure with
  | some fl => cases fl <;> rfl
  | none =>
    dsimp only
    split
    · rfl
    · refine withTable_sdk c s g table fun t => ?_
      cases f t with
      | ok a => exact congrArg _ (hout a)
      | error e =>
        cases e with
        | interp cls => simp only [writeErrOut]; split <;> rfl
        | _ => rfl

theorem applyWrite_sdk (c : Client) (s : Sdk) (g : Item → Item) (t : Bytes) (r : WriteReq) :
    applyWrite (c.withSdk s) t r = mapRes s g (applyWrite c t r) := by
  cases r with
  | put item | both item _ => simp only [applyWrite, putItem_eq_write]; exact write_sdk (hout := fun _ => rfl) ..
  | del key => simp only [applyWrite, deleteItem_eq_write]; exact write_sdk (hout := fun _ => rfl) ..
  | neither => rfl

theorem batchWrite_go_sdk (s : Sdk) (g : Item → Item) : ∀ (flat : List (Bytes × WriteReq)) (c : Client) (unp : List (Bytes × List WriteReq)),
    batchWrite.go (c.withSdk s) unp flat = mapRes s g (batchWrite.go c unp flat)
  | [], _, _ => rfl
  | (t, r) :: rest, c, unp => by
    simp only [batchWrite.go]
    rw [applyWrite_sdk c s g]
    generalize applyWrite c t r = res
    obtain ⟨c', o⟩ := res
    -- `go` looks at the constructor of the answer and at the class of an error, and `mapOut` keeps both
    cases o with
    | err cls it =>
      cases cls with
      | internalServer => exact batchWrite_go_sdk s g rest ..
      | _ => rfl
    | panicErr cls => rfl
    | _ => exact batchWrite_go_sdk s g rest ..

theorem batchWrite_sdk (c : Client) (s : Sdk) (g : Item → Item) (reqs : List (Bytes × List WriteReq)) :
    batchWrite (c.withSdk s) reqs = mapRes s g (batchWrite c reqs) := by
  unfold batchWrite
  dsimp only
  split
  · rfl
  · exact batchWrite_go_sdk s g _ c []

theorem updateTable_sdk (c : Client) (s : Sdk) (g : Item → Item) (n : Bytes) (chs : List IndexChange) :
    updateTable (c.withSdk s) n chs = mapRes s g (updateTable c n chs) := by
  unfold updateTable
  simp only [withSdk_tables]
  cases alookup n c.tables with
  | none => rfl
  | some t =>
    dsimp only
    cases redefinesKeyAttr t _ with
    | true => rfl
    | false =>
      generalize updateTable.go _ chs = res
      obtain ⟨t', e⟩ := res
      cases e <;> rfl

theorem getItem_sdk (c : Client) (t : Bytes) (key : Item) :
    getItem (c.withSdk .v2) t key = mapRes .v2 (outItem .v2) (getItem (c.withSdk .v1) t key) := by
  unfold getItem
  simp only [withSdk_failure]
  cases c.failure with
  | some f => cases f <;> rfl
  | none => exact withTable_sdk (c.withSdk .v1) .v2 _ t fun tb => by cases Key.getKey tb.schema tb.attrs key <;> rfl

theorem query_sdk (c : Client) (t : Bytes) (q : Table.Query) (ex : Exprs) :
    query (c.withSdk .v2) t q ex = mapRes .v2 (outItem .v2) (query (c.withSdk .v1) t q ex) := by
  unfold query
  rcases searchOnce_cases c t q ex with ⟨_, r, _, _, _, _, he⟩ | ⟨_, he⟩ | ⟨_, he⟩ <;>
    rw [show searchOnce (c.withSdk .v2) t q ex = _ from he .v2, show searchOnce (c.withSdk .v1) t q ex = _ from he .v1]
  · -- the v1 mapper is the identity
    rw [show r.items.map (outItem .v1) = r.items from List.map_id' _]
    simp only [mapRes, mapOut, List.length_map]
    rfl
  · rfl
  · rfl

/-- **C17**: away from the difference points, a v2 step is the v1 step with the returned
    items passed through the v2 output mapper, and leaves the same stored state -/
theorem step_v2_is_mapped_v1 (c : Client) (op : Op) (h : isDifferencePoint op = false) :
    step (c.withSdk .v2) op =
      ((step (c.withSdk .v1) op).1.withSdk .v2, mapOut (outItem .v2) (step (c.withSdk .v1) op).2) := by
  cases op with
  | createTable r =>
    dsimp only [step]
    unfold createTable
    rw [withSdk_tables, withSdk_tables]
    cases ahas r.table c.tables with
    | true => rfl
    | false => cases buildTable r <;> rfl
  | deleteTable n =>
    dsimp only [step, withSdk_tables]
    cases alookup n c.tables <;> rfl
  | describeTable n => exact withTable_sdk (c.withSdk .v1) .v2 _ n fun _ => rfl
  | updateTable n chs => exact updateTable_sdk (c.withSdk .v1) .v2 _ n chs
  | clearTable n => exact withTable_sdk (c.withSdk .v1) .v2 _ n fun _ => rfl
  | put t item cond ex =>
    dsimp only [step]
    simp only [putItem_eq_write]
    exact write_sdk (c.withSdk .v1) .v2 (hout := fun _ => rfl) ..
  | update t key expr cond ex rf =>
    obtain rfl : rf = false := h
    dsimp only [step]
    simp only [updateItem_eq_write]
    exact write_sdk (c.withSdk .v1) .v2 (hout := fun _ => rfl) ..
  | delete t key cond ex ro =>
    dsimp only [step]
    simp only [deleteItem_eq_write]
    exact write_sdk (c.withSdk .v1) .v2 (hout := fun _ => by cases ro <;> rfl) ..
  | get t key => exact getItem_sdk c t key
  | query t q ex => exact query_sdk c t q ex
  | pages t q ex da mx => cases h
  | batchWrite reqs => exact batchWrite_sdk (c.withSdk .v1) .v2 _ reqs
  | batchGet reqs => cases h
  | transactWrite =>
    dsimp only [step, withSdk_failure]
    cases c.failure with
    | none => rfl
    | some fl => cases fl <;> rfl
  | setFailure _ | activateNative | setInterpreter | registerMatcher _ _ _ _ | registerUpdater _ _ _ => rfl

/-- away from the difference points the stored state does not depend on the SDK flavour (a paginated read is one:
    its deletions are addressed through the mapped key) -/
theorem step_state_sdk (c : Client) (op : Op) (h : isDifferencePoint op = false) :
    (step (c.withSdk .v2) op).1.tables = (step (c.withSdk .v1) op).1.tables := by
  rw [step_v2_is_mapped_v1 c op h]; rfl

def NoEmptyOut : Out → Bool
  | .item (some it) => NoEmptyKvs it
  | .search items _ lek => items.all NoEmptyKvs && NoEmptyKvs lek
  | .err _ (some it) => NoEmptyKvs it
  | _ => true

theorem mapOut_id_of_noEmpty (o : Out) (h : NoEmptyOut o = true) : mapOut (outItem .v2) o = o := by
  cases o with
  | item it | err _ it =>
    cases it with
    | none => rfl
    | some it => simp only [mapOut, Option.map]; rw [v2_roundtrip_partial it h]
  | search items n lek =>
    simp only [NoEmptyOut, Bool.and_eq_true, List.all_eq_true] at h
    simp only [mapOut]
    rw [v2_roundtrip_partial lek h.2, List.map_congr_left (g := id) fun it hit => v2_roundtrip_partial it (h.1 it hit), List.map_id]
  | _ => rfl

/-- **C17, partial** (what is missing: values that are an empty binary, list, map or set —
    KF-C10-v2-empty-as-null — and the difference points): the same output at every step -/
theorem outputs_equal_partial (c : Client) (op : Op) (h : isDifferencePoint op = false)
    (hne : NoEmptyOut (step (c.withSdk .v1) op).2 = true) :
    (step (c.withSdk .v2) op).2 = (step (c.withSdk .v1) op).2 := by
  rw [step_v2_is_mapped_v1 c op h]
  exact mapOut_id_of_noEmpty _ hne

/-- KF-C17-v1-no-batchget: the model answers `.na` -/
theorem v1_has_no_batchGet (c : Client) (reqs : List (Bytes × List Item)) :
    (step (c.withSdk .v1) (.batchGet reqs)).2 = .na := rfl

end Client
end Minidyn

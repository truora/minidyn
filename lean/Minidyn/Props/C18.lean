/-
  Minidyn.Props.C18 — table lifecycle and metadata stay coherent.

  On the client model: CreateTable of an existing table answers ResourceInUse and changes nothing; DescribeTable,
  DeleteTable, ClearTable and UpdateTable of a missing table answer ResourceNotFound, and so do PutItem, GetItem and
  Query with no emulated failure and expression attributes that pass `validateExprAttrs` (UpdateItem, DeleteItem and
  the batches are not stated).  Other tables are left as they were by PutItem, UpdateItem, DeleteItem, ClearTable,
  DeleteTable (`*_frame`) and UpdateTable (`Client.updateTable_frame`); there is no frame theorem for CreateTable.
  Clients are values, so two clients share nothing by construction; that the Go evaluator hands out no pointer into a
  package-level object is `Tie.no_singleton_leak`.
-/
import Minidyn.Lemmas.Client
namespace Minidyn.Props.C18
open Minidyn.Client

theorem create_existing_fails (c : Client) (r : CreateTable) (h : ahas r.table c.tables = true) :
    createTable c r = (c, .err .resourceInUse none) := if_pos h

theorem missing_table_describe (c : Client) (n : Bytes) (h : alookup n c.tables = none) :
    step c (.describeTable n) = (c, .err .resourceNotFound none) := withTable_none _ h

theorem missing_table_delete (c : Client) (n : Bytes) (h : alookup n c.tables = none) :
    step c (.deleteTable n) = (c, .err .resourceNotFound none) := by dsimp only [step]; rw [h]

theorem missing_table_clear (c : Client) (n : Bytes) (h : alookup n c.tables = none) :
    step c (.clearTable n) = (c, .err .resourceNotFound none) := withTable_none _ h

theorem missing_table_update (c : Client) (n : Bytes) (chs) (h : alookup n c.tables = none) :
    step c (.updateTable n chs) = (c, .err .resourceNotFound none) := by dsimp only [step, updateTable]; rw [h]

theorem missing_table_put (c : Client) (n : Bytes) (item cond ex) (hf : c.failure = none)
    (hv : validateExprAttrs ex [cond.getD []] = true) (h : alookup n c.tables = none) :
    putItem c n item cond ex = (c, .err .resourceNotFound none) := by
  rw [putItem_eq_write]; exact write_missing hf hv h

theorem missing_table_get (c : Client) (n : Bytes) (key) (hf : c.failure = none) (h : alookup n c.tables = none) :
    getItem c n key = (c, .err .resourceNotFound none) := by simp only [getItem, hf, withTable_none _ h]

theorem missing_table_query (c : Client) (n : Bytes) (q ex) (hf : c.failure = none)
    (hv : validateExprAttrs ex (if q.scan then [[], q.filter] else [q.keyCond, q.filter, []]) = true)
    (h : alookup n c.tables = none) : query c n q ex = (c, .err .resourceNotFound none) := by
  simp [query, searchOnce, hf, hv, h]

/-- DescribeTable reports the number of stored keys -/
theorem describe_count (t : Table) : (describe t).count = t.sortedKeys.length := rfl

/-- a successful CreateTable registers a table without items, under the declared key schema -/
theorem created_is_empty (c c' : Client) (r : CreateTable) (d : TableDesc) (h : createTable c r = (c', .describe d)) :
    d.count = 0 ∧ d.schema = describeSchema (schemaOf r.key false) ∧
    ∃ t, alookup r.table c'.tables = some t ∧ t.sortedKeys = [] ∧ t.data = [] := by
  revert h
  -- of the three branches of `createTable` only the one that built a table `t` answers a description
  fun_cases createTable c r <;> intro h <;> cases h
  next t hb =>
  have ⟨hk, hd, hs⟩ := buildTable_empty hb
  exact ⟨congrArg List.length hk, congrArg describeSchema hs, t, alookup_ainsert_self .., hk, hd⟩

theorem put_frame (c : Client) (a b : Bytes) (item cond ex) (h : b ≠ a) :
    alookup b (putItem c a item cond ex).1.tables = alookup b c.tables := by
  rw [putItem_eq_write]; exact write_frame h

theorem update_frame (c : Client) (a b : Bytes) (key expr cond ex rf) (h : b ≠ a) :
    alookup b (updateItem c a key expr cond ex rf).1.tables = alookup b c.tables := by
  rw [updateItem_eq_write]; exact write_frame h

theorem delete_frame (c : Client) (a b : Bytes) (key cond ex ro) (h : b ≠ a) :
    alookup b (deleteItem c a key cond ex ro).1.tables = alookup b c.tables := by
  rw [deleteItem_eq_write]; exact write_frame h

theorem clear_frame (c : Client) (a b : Bytes) (h : b ≠ a) :
    alookup b (step c (.clearTable a)).1.tables = alookup b c.tables := by
  dsimp only [step, withTable]
  cases alookup a c.tables with
  | none => rfl
  | some tb => exact setTable_other c _ h

theorem deleteTable_frame (c : Client) (a b : Bytes) (h : b ≠ a) :
    alookup b (step c (.deleteTable a)).1.tables = alookup b c.tables := by
  dsimp only [step]
  cases alookup a c.tables with
  | none => rfl
  | some tb => exact alookup_aerase_ne c.tables h

/-- ClearTable empties the table and every one of its indexes -/
theorem clear_removes_all (t : Table) :
    t.clear.sortedKeys = [] ∧ t.clear.data = [] ∧ ∀ p ∈ t.clear.indexes, p.2.refs = [] ∧ p.2.sortedKeys = [] := by
  refine ⟨rfl, rfl, ?_⟩
  intro p hp
  simp only [Table.clear, List.mem_map] at hp
  obtain ⟨q, _, rfl⟩ := hp
  exact ⟨rfl, rfl⟩

/-- after DeleteTable the name is free again -/
theorem delete_then_lookup (c : Client) (a : Bytes) (t : Table) (h : alookup a c.tables = some t) :
    alookup a (step c (.deleteTable a)).1.tables = none := by
  dsimp only [step]
  rw [h]
  exact alookup_aerase_self a c.tables

end Minidyn.Props.C18

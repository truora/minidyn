/-
  Minidyn.Props.C19 — batch operations equal their item-by-item decomposition.

  `batchWrite_eq_fold`: a BatchWriteItem of at most 25 put and delete requests, each of which succeeds when its turn
  comes (`allSucceed`), leaves the client in the state obtained by issuing them one after the other as single-item
  operations (tables in the order given, requests in slice order) and reports nothing as unprocessed.  A batch with a
  failing request is not covered (KF-C08-batch-partial).  BatchGetItem is in Props/C19Get.lean.  Known finding
  KF-C19-absent-key-unprocessed: a key without a stored item is reported in UnprocessedKeys
  (`batchGet_absent_unprocessed`, one concrete request).
-/
import Minidyn.Model.Client
namespace Minidyn.Props.C19
open Minidyn.Client

def applyAll (c : Client) : List (Bytes × WriteReq) → Client
  | [] => c
  | (t, r) :: rest => applyAll (applyWrite c t r).1 rest

def succeeded : Out → Bool
  | .ok | .item _ => true
  | _ => false

def allSucceed (c : Client) : List (Bytes × WriteReq) → Bool
  | [] => true
  | (t, r) :: rest => succeeded (applyWrite c t r).2 && allSucceed (applyWrite c t r).1 rest

theorem go_eq_fold : ∀ (flat : List (Bytes × WriteReq)) (c : Client) (unp : List (Bytes × List WriteReq)),
    allSucceed c flat = true → batchWrite.go c unp flat = (applyAll c flat, .batchWrite unp) := by
  intro flat
  induction flat with
  | nil => intro c unp _; rfl
  | cons p rest ih =>
    intro c unp h
    obtain ⟨t, r⟩ := p
    simp only [allSucceed, Bool.and_eq_true] at h
    simp only [batchWrite.go, applyAll]
    cases hw : applyWrite c t r with
    | mk c' o =>
      rw [hw] at h
      -- an answer that counts as a success is `.ok` or `.item _`, and on these `go` goes on with `unp` as it is
      cases o with
      | ok | item _ => exact ih c' unp h.2
      | _ => cases h.1

theorem batchWrite_eq_fold (c : Client) (reqs : List (Bytes × List WriteReq))
    (hvalid : (reqs.flatMap fun (_, rs) => rs).any isBadReq = false) (hlimit : (reqs.flatMap fun (_, rs) => rs).length ≤ 25)
    (hall : allSucceed c (reqs.flatMap fun (t, rs) => rs.map fun r => (t, r)) = true) :
    batchWrite c reqs = (applyAll c (reqs.flatMap fun (t, rs) => rs.map fun r => (t, r)), .batchWrite []) := by
  unfold batchWrite
  dsimp only
  rw [hvalid, Bool.false_or, decide_eq_false (Nat.not_lt.2 hlimit), if_neg Bool.false_ne_true]
  exact go_eq_fold _ c [] hall

/-- more than 25 requests, or a request that is both or neither, rejects the whole batch unapplied -/
theorem batchWrite_rules (c : Client) (reqs : List (Bytes × List WriteReq))
    (h : (reqs.flatMap fun (_, rs) => rs).any isBadReq = true ∨ (reqs.flatMap fun (_, rs) => rs).length > 25) :
    batchWrite c reqs = (c, .err .validation none) := by
  unfold batchWrite
  exact if_pos (by rw [Bool.or_eq_true, decide_eq_true_eq]; exact h)

/-- KF-C19-absent-key-unprocessed on the model, for one request: the absent key comes back in UnprocessedKeys -/
theorem batchGet_absent_unprocessed :
    let c0 : Client := (createTable { sdk := .v2 } { table := [116, 97, 98], key := { hash := ([104], [83]) } }).1
    (match (batchGet c0 [([116, 97, 98], [[([104], .s [97])]])]).2 with
     | .batchGet resp unp => resp.map (·.2.length) == [0] && unp.map (·.2.length) == [1]
     | _ => false) = true := by
  decide

end Minidyn.Props.C19

/-
  Minidyn.Props.C19Get — BatchGetItem accounts for every requested key.

  For the v2 client with no emulated failure (the v1 client has no BatchGetItem).  `batchGet_eq`: per table entry the
  response is the list of the non-empty answers of GetItem to the keys, in key order, and the unprocessed keys are the
  other keys (one without a stored item among them: KF-C19-absent-key-unprocessed).  `batchGet_accounts` is about
  numbers only: returned items and unprocessed keys together are as many as the requested keys; it does not say which
  key went where.  That the Go BatchGetItem sorts a key by what GetItem answers is by definition of the model and
  checked by the harness (`harness/decomp.go`), not proved.
-/
import Minidyn.Lemmas.Client
namespace Minidyn.Props.C19Get
open Minidyn.Client

def sumLen {α β} (l : List (α × List β)) : Nat := (l.map (·.2.length)).sum

/-- `foundOf`, `unpOf`, `perTable`: the inner functions of `batchGet`, named (so that `batchGet_eq` is by `rfl`) -/
def foundOf (o : Out) : Option Item := match o with
  | Out.item (some it) => if it.isEmpty then none else some it
  | _ => none

def unpOf (k : Item) (o : Out) : Option Item := match o with
  | Out.item (some it) => if it.isEmpty then some k else none
  | _ => some k

theorem one_of (k : Item) (o : Out) : (foundOf o).isSome = !(unpOf k o).isSome := by
  cases o with
  | item it =>
    cases it with
    | none => rfl
    | some it => cases it <;> rfl
  | _ => rfl

theorem partition_len (rs : List (Item × Out)) :
    (rs.filterMap fun p => foundOf p.2).length + (rs.filterMap fun p => unpOf p.1 p.2).length = rs.length := by
  rw [List.length_filterMap_eq_countP, List.length_filterMap_eq_countP,
    List.length_eq_countP_add_countP (fun p => (foundOf p.2).isSome)]
  congr 2; funext p; rw [one_of p.1 p.2]; cases unpOf p.1 p.2 <;> rfl

def perTable (c : Client) (t : Bytes) (keys : List Item) : Bytes × List Item × List Item :=
  let rs := keys.map fun k => (k, (getItem c t k).2)
  (t, rs.filterMap (fun p => foundOf p.2), rs.filterMap (fun p => unpOf p.1 p.2))

theorem perTable_len (c : Client) (t : Bytes) (keys : List Item) :
    (perTable c t keys).2.1.length + (perTable c t keys).2.2.length = keys.length :=
  (partition_len _).trans (List.length_map ..)

theorem batchGet_eq (c : Client) (hs : c.sdk = .v2) (hf : c.failure = none) (reqs : List (Bytes × List Item)) :
    batchGet c reqs =
      (c, .batchGet ((reqs.map fun r => perTable c r.1 r.2).map fun p => (p.1, p.2.1))
                    ((reqs.map fun r => perTable c r.1 r.2).filterMap fun p => if p.2.2.isEmpty then none else some (p.1, p.2.2))) := by
  unfold batchGet
  simp only [hs, hf]
  rfl

/-- a table all of whose keys were answered is left out of the unprocessed keys, where it would count for nothing -/
theorem sum_found_unp : ∀ per : List (Bytes × List Item × List Item),
    sumLen (per.map fun p => (p.1, p.2.1)) +
      sumLen (per.filterMap fun p => if p.2.2.isEmpty then none else some (p.1, p.2.2)) =
    (per.map fun p => p.2.1.length + p.2.2.length).sum
  | [] => rfl
  | (_, _, []) :: per => (Nat.add_assoc ..).trans (congrArg (_ + ·) (sum_found_unp per))
  | (_, _, _ :: _) :: per => (Nat.add_add_add_comm ..).trans (congrArg (_ + ·) (sum_found_unp per))

/-- **C19**, BatchGetItem, in numbers: returned items and unprocessed keys together are as many as the requested keys -/
theorem batchGet_accounts (c : Client) (hs : c.sdk = .v2) (hf : c.failure = none) (reqs : List (Bytes × List Item)) :
    ∃ resp unp, (batchGet c reqs).2 = .batchGet resp unp ∧ sumLen resp + sumLen unp = sumLen reqs := by
  refine ⟨_, _, by rw [batchGet_eq c hs hf], ?_⟩
  rw [sum_found_unp]
  simp only [sumLen, List.map_map]
  congr 1
  exact List.map_congr_left fun r _ => perTable_len c r.1 r.2

/-- one response entry per requested table, in request order -/
theorem batchGet_tables (c : Client) (hs : c.sdk = .v2) (hf : c.failure = none) (reqs : List (Bytes × List Item)) :
    ∃ resp unp, (batchGet c reqs).2 = .batchGet resp unp ∧ resp.map (·.1) = reqs.map (·.1) := by
  refine ⟨_, _, by rw [batchGet_eq c hs hf], ?_⟩
  rw [List.map_map, List.map_map]
  rfl

theorem batchGet_reads_only (c : Client) (reqs : List (Bytes × List Item)) : (batchGet c reqs).1 = c := batchGet_state c reqs

end Minidyn.Props.C19Get

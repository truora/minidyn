/-
  C20 — native-interpreter overrides are dispatched exactly and fall back safely.
  Registrations are keyed by kind (in Go a map for each), table and `normWS` text (in Go a struct, in the model an
  injective encoding, `Client.matcherKey`).  So a registered matcher answers a request iff kind and table are equal and
  the whitespace-normalised texts are (`lookup_registered`, `lookup_other`, `matcherKey_inj`: for any bytes in table
  names and texts); which texts have equal normal forms is in C20Words.  Without a registration
  `Table.interpreterMatch` gives the verdict of the built-in interpreter (`fallback_match`); `Table.interpreterUpdate`
  has no fallback: without a registered updater it fails with the unsupported-feature error (`no_updater_fails`).
-/
import Minidyn.Model.Client
import Minidyn.Lemmas.Assoc
import Minidyn.Props.C13
namespace Minidyn.Props.C20
open Minidyn.Client

/-- for any bytes in table name and text: the table name is escaped as in composite primary keys (C13) -/
theorem nativeKey_inj (table table' e e' : Bytes) :
    nativeKey table e = nativeKey table' e' ↔ (table = table' ∧ Interp.normWS e = Interp.normWS e') := by
  unfold nativeKey
  constructor
  · intro h; exact C13.escape_sep_injective _ _ _ _ h
  · rintro ⟨rfl, h⟩; rw [h]

theorem kindByte_inj {k k' : ExprKind} : kindByte k = kindByte k' ↔ k = k' := by
  cases k <;> cases k' <;> decide

theorem matcherKey_inj (kind kind' : ExprKind) (table table' e e' : Bytes) :
    matcherKey kind table e = matcherKey kind' table' e' ↔
      (kind = kind' ∧ table = table' ∧ Interp.normWS e = Interp.normWS e') := by
  rw [matcherKey, matcherKey, List.cons.injEq, kindByte_inj, nativeKey_inj]

/-- table `tab|x` with text `y` against table `tab` with text `x|y`, one key if it were `table ++ "|" ++ text` -/
example : nativeKey [116, 97, 98, 124, 120] [121] ≠ nativeKey [116, 97, 98] [120, 124, 121] := by decide

/-- **C20, exact dispatch**: after `AddMatcher` the registry answers with the new matcher for its own key … -/
theorem lookup_registered (c : Client) (t : Bytes) (kind : ExprKind) (e : Bytes) (id : Nat) :
    alookup (matcherKey kind t e) (step c (.registerMatcher t kind e id)).1.matchers = some id :=
  alookup_ainsert_self _ _ _

/-- … and as before for every other key, that is (`matcherKey_inj`) for another kind, table or normalised text -/
theorem lookup_other (c : Client) (t : Bytes) (kind : ExprKind) (e : Bytes) (id : Nat) (k : Bytes)
    (h : k ≠ matcherKey kind t e) :
    alookup k (step c (.registerMatcher t kind e id)).1.matchers = alookup k c.matchers :=
  alookup_ainsert_ne _ _ h

/-- **C20, fallback**: with `UseNativeInterpreter` off, or without a registration, `Table.interpreterMatch` answers what
    the built-in interpreter answers (a panic on its error) -/
theorem fallback_match (c : Client) (t : Bytes) (ex : Exprs) (kind : ExprKind) (e : Bytes) (item : Item)
    (h : c.useNative = false ∨ alookup (matcherKey kind t e) c.matchers = none) :
    matcher c t ex kind e item =
      match Interp.langMatch e item ex.names ex.values with
      | .ok b => .ok b
      | .error err => .panic (ierrClass err) := by
  unfold matcher
  cases h with
  | inl h => simp only [h, Bool.false_eq_true, if_false]; rfl
  | inr h => simp only [h]; split <;> rfl

theorem verdict_used (c : Client) (t : Bytes) (ex : Exprs) (kind : ExprKind) (e : Bytes) (item : Item) (id : Nat)
    (hn : c.useNative = true) (h : alookup (matcherKey kind t e) c.matchers = some id) :
    matcher c t ex kind e item = .ok (matcherVerdict id item) := by
  simp [matcher, hn, h]

/-- no fallback for updates: with `UseNativeInterpreter` on, `Native.Update` without a registered updater fails with
    `ErrUnsupportedFeature` -/
theorem no_updater_fails (c : Client) (t e : Bytes) (ex : Exprs) (item : Item)
    (hn : c.useNative = true) (h : alookup (nativeKey t e) c.updaters = none) :
    updater c t e ex item = .error "Unsupported" := by
  simp [updater, hn, h]

/-- `"  ab  =\t:x\n"` has the normal form of `"ab = :x"`; `"ba = :x"` and `"a b = :x"` have not -/
example : Interp.normWS [32, 32, 97, 98, 32, 32, 61, 9, 58, 120, 10] = Interp.normWS [97, 98, 32, 61, 32, 58, 120] := by decide
example : Interp.normWS [98, 97, 32, 61, 32, 58, 120] ≠ Interp.normWS [97, 98, 32, 61, 32, 58, 120] := by decide
example : Interp.normWS [97, 32, 98, 32, 61, 32, 58, 120] ≠ Interp.normWS [97, 98, 32, 61, 32, 58, 120] := by decide

end Minidyn.Props.C20

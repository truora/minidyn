/-
  C20, a blank inside a word makes another text: writing `w1 w2` for `w1w2`, where `w1w2` is a whole word of the text
  (the text begins or a blank stands before it, the text ends or a blank stands behind it: hypotheses `ha`, `hb`),
  changes the words (`blank_inside_word`), hence the registration key (`matcherKey_blank_inside`): a registration for
  `attribute_exists(v)` never answers for `attribute _exists(v)`, nor one for `v = :x` for `v = : x`.
-/
import Minidyn.Props.C20Words
namespace Minidyn.Props.C20

/-- **a blank inside a whole word of a text (`ha`, `hb`) makes two words of it** -/
theorem blank_inside_word (a b w1 w2 : Bytes) (h1 : IsWord w1) (h2 : IsWord w2)
    (ha : a = [] ∨ ∃ a0 c, a = a0 ++ [c] ∧ Lexer.isSpace c = true)
    (hb : b = [] ∨ ∃ c b0, b = c :: b0 ∧ Lexer.isSpace c = true) :
    words (a ++ (w1 ++ 32 :: (w2 ++ b))) = words a ++ w1 :: w2 :: words b ∧
    words (a ++ ((w1 ++ w2) ++ b)) = words a ++ (w1 ++ w2) :: words b := by
  have h12 : IsWord (w1 ++ w2) := ⟨by intro h0; exact h1.1 (List.append_eq_nil_iff.1 h0).1,
    fun c hc => by rcases List.mem_append.1 hc with h | h; exact h1.2 c h; exact h2.2 c h⟩
  constructor
  · rw [words_append_of_blank_end a _ ha, words_append_blank 32 w1 (w2 ++ b) (by decide), words_word h1,
      words_word_first w2 b h2 hb]
    rfl
  · rw [words_append_of_blank_end a _ ha, words_word_first _ b h12 hb]

/-- ... so the text with the blank has another registration key than the text without it -/
theorem matcherKey_blank_inside (kind : ExprKind) (table a b w1 w2 : Bytes) (h1 : IsWord w1) (h2 : IsWord w2)
    (ha : a = [] ∨ ∃ a0 c, a = a0 ++ [c] ∧ Lexer.isSpace c = true)
    (hb : b = [] ∨ ∃ c b0, b = c :: b0 ∧ Lexer.isSpace c = true) :
    Client.matcherKey kind table (a ++ (w1 ++ 32 :: (w2 ++ b))) ≠ Client.matcherKey kind table (a ++ ((w1 ++ w2) ++ b)) := by
  intro h
  have hw := ((matcherKey_eq_iff_words kind kind table table _ _).1 h).2.2
  obtain ⟨e1, e2⟩ := blank_inside_word a b w1 w2 h1 h2 ha hb
  rw [e1, e2] at hw
  have := congrArg List.length hw
  simp at this

example : words (Bytes.ofString "attribute _exists(v)") ≠ words (Bytes.ofString "attribute_exists(v)") := by decide +kernel

end Minidyn.Props.C20

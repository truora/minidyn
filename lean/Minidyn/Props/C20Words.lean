/-
  C20, white space — what "the same expression text up to surrounding and repeated white space" means.
  `Interp.normWS` (Go `hashExpressionKey`: `strings.FieldsFunc` at space, tab, newline and carriage return, joined by
  one space) is characterised by the list of words of a text: two texts have the same registration key exactly when
  they have the same words (`normWS_eq_iff`, `matcherKey_eq_iff_words`).  Blanks in front, behind, doubled or of
  another kind do not change the words (`words_leading`, `words_trailing`, `words_repeat`, `words_kind`); a blank
  inside a word does (C20Blank).  The words are the non-empty pieces of Lean's `List.splitOnP` at the blanks
  (`words_eq_splitOnP`), which is where `words_append_blank` and `words_word` come from.
-/
import Minidyn.Props.C20
namespace Minidyn.Props.C20
open Minidyn.Interp

/-- the words of a text: maximal runs of non-blank bytes -/
def words (s : Bytes) : List Bytes := normWS.fields s []

theorem normWS_def (s : Bytes) : normWS s = normWS.join (words s) := rfl

theorem words_leading (c : Nat) (s : Bytes) (h : Lexer.isSpace c = true) : words (c :: s) = words s := by
  simp [words, normWS.fields, h]

theorem fields_eq_splitOnP (s cur : Bytes) :
    normWS.fields s cur = (List.splitOnPPrepend Lexer.isSpace s cur).filter (fun w => !w.isEmpty) := by
  fun_induction normWS.fields s cur with
  | case1 cur h => simp [h]
  | case2 cur h => simp [h]
  | case3 c cs cur hc h ih => rw [List.splitOnPPrepend_cons_pos hc, List.filter_cons_of_neg (by simpa using h), ih]; rfl
  | case4 c cs cur hc h ih => rw [List.splitOnPPrepend_cons_pos hc, List.filter_cons_of_pos (by simpa using h), ih]; rfl
  | case5 c cs cur hc ih => rw [List.splitOnPPrepend_cons_neg (Bool.eq_false_iff.2 hc), ih]

theorem words_eq_splitOnP (s : Bytes) : words s = (s.splitOnP Lexer.isSpace).filter (fun w => !w.isEmpty) :=
  fields_eq_splitOnP s []

theorem words_append_blank (c : Nat) (x y : Bytes) (h : Lexer.isSpace c = true) : words (x ++ c :: y) = words x ++ words y := by
  rw [words_eq_splitOnP, words_eq_splitOnP, words_eq_splitOnP, List.splitOnP_append_cons x y h, List.filter_append]

theorem words_trailing (c : Nat) (s : Bytes) (h : Lexer.isSpace c = true) : words (s ++ [c]) = words s := by
  rw [words_append_blank c s [] h]; exact List.append_nil _

theorem words_repeat (c d : Nat) (pre post : Bytes) (hc : Lexer.isSpace c = true) (hd : Lexer.isSpace d = true) :
    words (pre ++ c :: d :: post) = words (pre ++ c :: post) := by
  rw [words_append_blank c pre _ hc, words_append_blank c pre _ hc, words_leading d post hd]

theorem words_kind (c d : Nat) (pre post : Bytes) (hc : Lexer.isSpace c = true) (hd : Lexer.isSpace d = true) :
    words (pre ++ c :: post) = words (pre ++ d :: post) := by
  rw [words_append_blank c pre _ hc, words_append_blank d pre _ hd]

def IsWord (w : Bytes) : Prop := w ≠ [] ∧ ∀ c ∈ w, Lexer.isSpace c = false

theorem isWord_reverse {cur : Bytes} (hne : ¬ cur.isEmpty = true) (h : ∀ c ∈ cur, Lexer.isSpace c = false) :
    IsWord cur.reverse :=
  ⟨fun h0 => hne (by rw [List.reverse_eq_nil_iff.1 h0]; rfl), fun c hc => h c (List.mem_reverse.1 hc)⟩

theorem fields_isWord (s cur : Bytes) (hcur : ∀ c ∈ cur, Lexer.isSpace c = false) : ∀ w ∈ normWS.fields s cur, IsWord w := by
  fun_induction normWS.fields s cur with
  | case1 cur h => nofun
  | case2 cur h => exact List.forall_mem_singleton.2 (isWord_reverse h hcur)
  | case3 c cs cur hc h ih => exact ih (by simp)
  | case4 c cs cur hc h ih => exact List.forall_mem_cons.2 ⟨isWord_reverse h hcur, ih (by simp)⟩
  | case5 c cs cur hc ih => exact ih (List.forall_mem_cons.2 ⟨Bool.eq_false_iff.2 hc, hcur⟩)

theorem words_isWord (s : Bytes) : ∀ w ∈ words s, IsWord w := fields_isWord s [] (by simp)

theorem words_word {w : Bytes} (hw : IsWord w) : words w = [w] := by
  rw [words_eq_splitOnP, List.splitOnP_eq_singleton hw.2, List.filter_cons_of_pos (by simpa using hw.1)]; rfl

theorem words_word_first (w b : Bytes) (hw : IsWord w) (hb : b = [] ∨ ∃ c b0, b = c :: b0 ∧ Lexer.isSpace c = true) :
    words (w ++ b) = w :: words b := by
  rcases hb with rfl | ⟨c, b0, rfl, hc⟩
  · rw [List.append_nil, words_word hw]; rfl
  · rw [words_append_blank c w b0 hc, words_word hw, words_leading c b0 hc]; rfl

theorem words_append_of_blank_end (a x : Bytes) (ha : a = [] ∨ ∃ a0 c, a = a0 ++ [c] ∧ Lexer.isSpace c = true) :
    words (a ++ x) = words a ++ words x := by
  rcases ha with rfl | ⟨a0, c, rfl, hc⟩
  · rfl
  · rw [List.append_assoc, List.singleton_append, words_append_blank c a0 x hc, words_trailing c a0 hc]

theorem words_join : ∀ (ws : List Bytes), (∀ w ∈ ws, IsWord w) → words (normWS.join ws) = ws
  | [], _ => rfl
  | [x], h => words_word (h x List.mem_cons_self)
  | x :: y :: ys, h => by
    show words (x ++ [32] ++ normWS.join (y :: ys)) = _
    rw [List.append_assoc, List.singleton_append, words_append_blank 32 x _ (by decide),
      words_word (h x List.mem_cons_self), words_join (y :: ys) fun w hw => h w (List.mem_cons_of_mem _ hw)]
    rfl

/-- **two texts have the same registration text exactly when they consist of the same words** -/
theorem normWS_eq_iff (a b : Bytes) : normWS a = normWS b ↔ words a = words b := by
  constructor
  · intro h
    have := congrArg words h
    rwa [normWS_def, normWS_def, words_join _ (words_isWord a), words_join _ (words_isWord b)] at this
  · intro h; rw [normWS_def, normWS_def, h]

theorem normWS_idem (s : Bytes) : normWS (normWS s) = normWS s := by
  rw [normWS_def (normWS s), normWS_def s, words_join _ (words_isWord s)]

/-- **C20**: a registration and a request have the same key exactly when kind and table agree and the two texts have the
    same words -/
theorem matcherKey_eq_iff_words (kind kind' : ExprKind) (table table' e e' : Bytes) :
    Client.matcherKey kind table e = Client.matcherKey kind' table' e' ↔ (kind = kind' ∧ table = table' ∧ words e = words e') := by
  rw [matcherKey_inj, normWS_eq_iff]

example : words (Bytes.ofString "v = : x") ≠ words (Bytes.ofString "v = :x") := by decide +kernel

end Minidyn.Props.C20

/-
  A property of tables that the table operations keep holds of every table of every client state a history reaches.

  `TablePred P` lists what is asked of `P`: it holds of a freshly built table and is kept by `Table.put`,
  `Table.delete`, `Table.clear` and by UpdateTable on the addressed table (`updateTable_keeps` derives that last clause
  from facts about tables).  `step_lift'` walks once through all operations of the client; UpdateItem is the one
  operation `TablePred` does not cover (it can break `C04.Keyed`: KF-C13-update-changes-key), so the walk asks for it
  separately, and only if the operation is an UpdateItem.  The invariants of `Props.Reach` and
  `ReachGen.reachable_keyed` are instances.
-/
import Minidyn.Lemmas.Client
namespace Minidyn.Props.ReachGen
open Minidyn.Client Minidyn.Table

structure TablePred (P : Table → Prop) : Prop where
  build : ∀ r t, buildTable r = some t → P t
  put : ∀ (t t' : Table) (m : Matcher) (item : Item) (cond : Option Bytes), P t → t.put m item cond = .ok t' → P t'
  delete : ∀ (t t' : Table) (m : Matcher) (k : Item) (cond : Option Bytes) (old : Option Item), P t → t.delete m k cond = .ok (t', old) → P t'
  clear : ∀ t, P t → P t.clear
  updateTable : ∀ (c : Client) (name : Bytes) (chs : List IndexChange) (t t' : Table), alookup name c.tables = some t →
    alookup name (updateTable c name chs).1.tables = some t' → P t → P t'

def Lift (P : Table → Prop) (c : Client) : Prop := ∀ n t, alookup n c.tables = some t → P t

def IsUpdate : Op → Prop
  | .update .. => True
  | _ => False

variable {P : Table → Prop}

theorem updateTable_keeps
    (retype : ∀ t defs, redefinesKeyAttr t defs = false → P t →
      P { t with attrs := defs.foldl (fun acc (n, ty) => ainsert n ty acc) t.attrs })
    (addIndex : ∀ t t' d, addGlobalIndex t (isPPR t) d = some t' → P t → P t')
    (dropIndex : ∀ t n, P t → P { t with indexes := aerase n t.indexes })
    (c : Client) (name : Bytes) (chs : List IndexChange) (t t' : Table) (ht : alookup name c.tables = some t)
    (ht' : alookup name (updateTable c name chs).1.tables = some t') (hp : P t) : P t' := by
  rcases updateTable_tables ht' with h0 | ⟨_, t0, defs, ht0, hr, rfl⟩
  · rw [ht] at h0; cases h0; exact hp
  · rw [ht] at ht0; cases ht0
    exact updateTable.go_ind addIndex dropIndex chs _ (retype t defs hr hp)

theorem lift_new (sdk : Sdk) : Lift P { sdk := sdk } := fun _ _ h => by cases h

theorem lift_setTable {c : Client} (hc : Lift P c) (n : Bytes) {t : Table} (ht : P t) : Lift P (setTable c n t) :=
  fun m t' h => (alookup_ainsert_some h).elim (fun e => e.2 ▸ ht) (hc m t')

theorem lift_write {α : Type} {c : Client} (hc : Lift P c) {table : Bytes} {ex : Exprs} {exprs : List Bytes} {rf : Bool}
    {op : Table → Except WriteErr α} {tbl : α → Table} {out : α → Out} (hop : ∀ t a, P t → op t = .ok a → P (tbl a)) :
    Lift P (write c table ex exprs rf op tbl out).1 := by
  rcases write_cases c table ex exprs rf op tbl out with ⟨t, a, _, ht, ha, h⟩ | ⟨o, _, h⟩
  · rw [h]; exact lift_setTable hc table (hop t a (hc table t ht) ha)
  · rw [h]; exact hc

theorem lift_putItem (hP : TablePred P) {c : Client} (hc : Lift P c) (table : Bytes) (item : Item) (cond : Option Bytes)
    (ex : Exprs) : Lift P (putItem c table item cond ex).1 := by
  rw [putItem_eq_write]; exact lift_write hc fun t t' ht h => hP.put t t' _ item cond ht h

theorem lift_deleteItem (hP : TablePred P) {c : Client} (hc : Lift P c) (table : Bytes) (key : Item) (cond : Option Bytes)
    (ex : Exprs) (ro : Bool) : Lift P (deleteItem c table key cond ex ro).1 := by
  rw [deleteItem_eq_write]; exact lift_write hc fun t r ht h => hP.delete t r.1 _ key cond r.2 ht h

theorem lift_applyWrite (hP : TablePred P) {c : Client} (hc : Lift P c) (table : Bytes) (r : WriteReq) :
    Lift P (applyWrite c table r).1 := by
  cases r with
  | put item => exact lift_putItem hP hc _ _ _ _
  | both item k => exact lift_putItem hP hc _ _ _ _
  | del key => exact lift_deleteItem hP hc _ _ _ _ _
  | neither => exact hc

/-- **one step**, any operation: UpdateItem is asked for separately -/
theorem step_lift' (hP : TablePred P) (c : Client) (op : Op)
    (hu : IsUpdate op → ∀ (t t' : Table) (m : Matcher) (upd : Updater) (k : Item) (cond : Option Bytes) (res : Item),
      P t → t.update m upd k cond = .ok (t', res) → P t')
    (hc : Lift P c) : Lift P (step c op).1 := by
  cases op with
  | createTable r =>
    dsimp only [step, createTable]
    split
    · exact hc
    · cases hb : buildTable r with
      | none => exact hc
      | some t => exact lift_setTable hc r.table (hP.build r t hb)
  | deleteTable n =>
    dsimp only [step]
    cases alookup n c.tables with
    | none => exact hc
    | some t => exact fun m t' h => hc m t' (alookup_of_aerase h)
  | describeTable n =>
    dsimp only [step, withTable]
    cases alookup n c.tables <;> exact hc
  | updateTable name chs =>
    intro m t' h
    rcases updateTable_tables h with h0 | ⟨rfl, t, _, ht, _, _⟩
    · exact hc m t' h0
    · exact hP.updateTable c m chs t t' ht h (hc m t ht)
  | clearTable n =>
    dsimp only [step, withTable]
    cases ht : alookup n c.tables with
    | none => exact hc
    | some t => exact lift_setTable hc n (hP.clear t (hc n t ht))
  | put t item cond ex => exact lift_putItem hP hc _ _ _ _
  | update t key expr cond ex rf =>
    dsimp only [step]
    rw [updateItem_eq_write]
    exact lift_write hc fun t r ht h => hu trivial t r.1 _ _ key cond r.2 ht h
  | delete t key cond ex ro => exact lift_deleteItem hP hc _ _ _ _ _
  | get t key => dsimp only [step]; rw [getItem_state]; exact hc
  | query t q ex => dsimp only [step]; rw [query_state]; exact hc
  | pages t q ex da mx => exact pagesLoop_inv (P := Lift P) t ex da (fun _ _ h => lift_deleteItem hP h _ _ _ _ _) mx 0 q c [] hc
  | batchWrite reqs => exact batchWrite_inv (P := Lift P) (fun _ t r h => lift_applyWrite hP h t r) c reqs hc
  | batchGet reqs => dsimp only [step]; rw [batchGet_state]; exact hc
  | transactWrite => dsimp only [step]; cases c.failure <;> exact hc
  | setFailure _ | activateNative | setInterpreter | registerMatcher _ _ _ _ | registerUpdater _ _ _ => exact hc

theorem step_lift (hP : TablePred P) (c : Client) (op : Op) (hop : ¬ IsUpdate op) (hc : Lift P c) : Lift P (step c op).1 :=
  step_lift' hP c op (fun h => absurd h hop) hc

theorem run_lift' (hP : TablePred P) (ops : List Op) (c : Client)
    (hu : ∀ op ∈ ops, IsUpdate op → ∀ (t t' : Table) (m : Matcher) (upd : Updater) (k : Item) (cond : Option Bytes) (res : Item),
      P t → t.update m upd k cond = .ok (t', res) → P t')
    (hc : Lift P c) : Lift P (run c ops).1 :=
  run_inv (P := Lift P) ops c (fun c op ho h => step_lift' hP c op (hu op ho) h) hc

theorem reachable_lift (hP : TablePred P) (sdk : Sdk) (ops : List Op) (hno : ∀ op ∈ ops, ¬ IsUpdate op) :
    Lift P (run { sdk := sdk } ops).1 :=
  run_lift' hP ops _ (fun op ho h => absurd h (hno op ho)) (lift_new sdk)

end Minidyn.Props.ReachGen

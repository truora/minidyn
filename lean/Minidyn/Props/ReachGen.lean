/-
  Invariant hypotheses of the read and pagination theorems, for reachable states.

  `reachable_keyed`: `C04.Keyed` (every item is stored under the key string of its own key attributes), a hypothesis of
  `C04.paginate_complete`, `paginate_complete_ix` and `C13Start.lek_valid_start`, holds in every state reached by a
  history WITHOUT UpdateItem, the one operation that can break it (KF-C13-update-changes-key).
  `Reach.reachable_table_read`, `reachable_index_read_all`: `C02.search_exact` and `C03.index_search_exact` with their
  invariants supplied by `Reach.reachable_inv` and `reachable_inv3_all`.  They are about `Table.searchData` with an
  arbitrary matcher and keep the hypothesis `C02.Answers`; no theorem says which items `Client.query` returns.
-/
import Minidyn.Props.Reach
import Minidyn.Props.C04Index
namespace Minidyn.Props.ReachGen
open Minidyn.Client Minidyn.Props.C04

theorem keyed_tablePred : TablePred Keyed where
  build _ t hb := keyed_empty t (by rw [(buildTable_empty hb).2.2]; rfl) (buildTable_empty hb).2.1
  put := keyed_put
  delete := keyed_delete
  clear t hk := keyed_empty t.clear hk.primary rfl
  updateTable := updateTable_keeps
    (fun t defs hr hk => keyed_congr hk rfl (fun _ _ => id)
      (attrs_of_not_redefines hr (List.mem_append_left _ (List.mem_cons_self ..)))
      (attrs_of_not_redefines hr (List.mem_append_left _ (List.mem_cons_of_mem _ (List.mem_cons_self ..)))))
    (fun t t' d ha hk => by rw [addGlobalIndex_eq ha]; exact ⟨hk.primary, hk.keyed⟩)
    (fun t n hk => ⟨hk.primary, hk.keyed⟩)

/-- **in every state reachable without UpdateItem every item is stored under the key string of its own key
    attributes**, the hypothesis `Keyed` of the pagination theorems -/
theorem reachable_keyed (sdk : Sdk) (ops : List Op) (hno : ∀ op ∈ ops, ¬ IsUpdate op) :
    ∀ n t, alookup n (run { sdk := sdk } ops).1.tables = some t → Keyed t :=
  reachable_lift keyed_tablePred sdk ops hno

end Minidyn.Props.ReachGen

namespace Minidyn.Props.Reach
open Minidyn.Client Minidyn.Props.C02 Minidyn.Props.C03

/-- **C02 in every reachable state**, for `Table.searchData` (not `Client.query`) with any matcher that answers on
    every stored item (`ha`): without index, Limit and start key it returns the stored items with a true verdict, in
    key order -/
theorem reachable_table_read (sdk : Sdk) (ops : List Op) (name : Bytes) (t : Table) (m : Matcher) (q : Table.Query)
    (ht : alookup name (run { sdk := sdk } ops).1.tables = some t)
    (hidx : q.index = []) (hl : q.limit = 0) (hsk : q.startKey = [])
    (ha : ∀ k item, alookup k t.data = some item → Answers m q item) :
    ∃ r, t.searchData m q = .ok r ∧
      r.items = pick t m q (if q.forward then t.sortedKeys else t.sortedKeys.reverse) ∧ r.lastKey = [] :=
  search_exact t m q (reachable_inv sdk ops name t ht) hidx hl hsk ha

/-- **C03 in every reachable state**, for `Table.searchData` as above: on a secondary index, without Limit and start
    key, it returns the items of the primary keys the index references that have a true verdict, in (index key, primary
    key) order; the referenced keys are those whose stored item has the index's key attributes (`referenced_iff`) -/
theorem reachable_index_read_all (sdk : Sdk) (ops : List Op) (name : Bytes) (t : Table) (ix : Index)
    (m : Matcher) (q : Table.Query)
    (ht : alookup name (run { sdk := sdk } ops).1.tables = some t)
    (hix : alookup q.index t.indexes = some ix) (hne : q.index.isEmpty = false) (hl : q.limit = 0) (hsk : q.startKey = [])
    (ha : ∀ k item, alookup k t.data = some item → Answers m q item) :
    (∃ r, t.searchData m q = .ok r ∧ r.items = pick t m q ((ix.sortedRefs q.forward).map (·.1)) ∧ r.lastKey = []) ∧
    (∀ pk, (alookup pk ix.refs).isSome = true ↔
      ∃ item ik, alookup pk t.data = some item ∧ Key.getKey ix.schema t.attrs item = .ok ik ∧ ik ≠ []) := by
  obtain ⟨hinv, hag⟩ := (reachable_inv3_all sdk ops name t ht).index q.index ix hix
  exact ⟨index_search_exact t m q ix hix hne hinv hl hsk (C04.refs_stored hinv hag ha), fun pk => referenced_iff t ix hag pk⟩

/-- the same with the hypothesis `SafeRun`, which is not used and which every history satisfies (`safeRun_always`) -/
theorem reachable_index_read (sdk : Sdk) (ops : List Op) (hs : SafeRun { sdk := sdk } ops) (name : Bytes) (t : Table) (ix : Index)
    (m : Matcher) (q : Table.Query)
    (ht : alookup name (run { sdk := sdk } ops).1.tables = some t)
    (hix : alookup q.index t.indexes = some ix) (hne : q.index.isEmpty = false) (hl : q.limit = 0) (hsk : q.startKey = [])
    (ha : ∀ k item, alookup k t.data = some item → Answers m q item) :
    (∃ r, t.searchData m q = .ok r ∧ r.items = pick t m q ((ix.sortedRefs q.forward).map (·.1)) ∧ r.lastKey = []) ∧
    (∀ pk, (alookup pk ix.refs).isSome = true ↔
      ∃ item ik, alookup pk t.data = some item ∧ Key.getKey ix.schema t.attrs item = .ok ik ∧ ik ≠ []) :=
  reachable_index_read_all sdk ops name t ix m q ht hix hne hl hsk ha

end Minidyn.Props.Reach

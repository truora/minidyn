/-
  Minidyn.Props.Refine — C01 at the client: PutItem, DeleteItem, UpdateItem and GetItem of `Model.Client` against an
  abstract store table name ↦ key string ↦ item (`absC`).

  `put_refines`, `delete_refines`, `update_refines`: a write that succeeds changes the abstract store at exactly one
  point, (its table, the key string of its own key attributes), to the specified value (`specSet`): the item put,
  nothing, the updater's result on the stored item (on the key attributes when nothing was stored; the result may carry
  other key attributes than the point it is stored at: KF-C13-update-changes-key).  `failed_write_refines`: a write that
  answers an error or the documented panic changes nothing.  `get_refines`: GetItem answers what the abstract store
  holds under the request's key.  Some statements assume `Reach.ClientInv c`, which every reachable state has; no proof
  uses it (`absC` reads nothing but `Table.data`).  Along a history there is `run_refines` only: unconditional puts
  without placeholders into one table (`putAll`); for a history with a conditional put, UpdateItem, DeleteItem or two
  tables there is no theorem.
-/
import Minidyn.Props.Reach
import Minidyn.Props.C08
import Minidyn.Props.C10
namespace Minidyn.Props.Refine
open Minidyn.Client Minidyn.Props.C01

def absC (c : Client) (tb k : Bytes) : Option Item := (alookup tb c.tables).bind fun t => abs t k

def specSet (a : Bytes → Bytes → Option Item) (tb k : Bytes) (v : Option Item) : Bytes → Bytes → Option Item :=
  fun tb' k' => if tb' = tb ∧ k' = k then v else a tb' k'

theorem absC_of {c : Client} {tb : Bytes} {t : Table} (ht : alookup tb c.tables = some t) (k : Bytes) : absC c tb k = abs t k := by
  rw [absC, ht]; rfl

theorem absC_setTable (c : Client) {tb : Bytes} {t t' : Table} {key : Bytes} {v : Option Item}
    (ht : alookup tb c.tables = some t) (h : ∀ k, abs t' k = if k = key then v else abs t k) :
    ∀ tb' k', absC (setTable c tb t') tb' k' = specSet (absC c) tb key v tb' k' := by
  intro tb' k'
  unfold specSet
  by_cases h1 : tb' = tb
  · subst h1
    rw [absC_of (setTable_self c tb' t'), h, ← absC_of ht]
    simp only [true_and]
  · rw [absC, setTable_other c t' h1, if_neg fun h => h1 h.1]; rfl

/-- what a write that went through answers: `.ok` (PutItem), `.item _` (DeleteItem, UpdateItem) -/
def IsSuccess : Out → Prop
  | .ok | .item _ => True
  | _ => False

theorem not_success_of_failure {o : Out} (h : C08.isFailure o = true) : ¬ IsSuccess o := by
  cases o <;> first | exact id | cases h

theorem write_success {α : Type} {c c' : Client} {tb : Bytes} {ex : Exprs} {exprs : List Bytes} {rf : Bool}
    {f : Table → Except Table.WriteErr α} {tbl : α → Table} {out : α → Out} {o : Out}
    (h : write c tb ex exprs rf f tbl out = (c', o)) (hs : IsSuccess o) :
    ∃ t a, c.failure = none ∧ alookup tb c.tables = some t ∧ f t = .ok a ∧ c' = setTable c tb (tbl a) ∧ o = out a := by
  rcases write_cases c tb ex exprs rf f tbl out with ⟨t, a, hf, ht, ha, he⟩ | ⟨o', ho, he⟩ <;> rw [he] at h <;> cases h
  · exact ⟨t, a, hf, ht, ha, rfl, rfl⟩
  · exact absurd hs (not_success_of_failure ho)

/-- **C01**, PutItem: on success the abstract store changes at the point (table, key string of the item), to the item -/
theorem put_refines (c c' : Client) (tb : Bytes) (item : Item) (cond : Option Bytes) (ex : Exprs) (o : Out)
    (h : putItem c tb item cond ex = (c', o)) (hs : IsSuccess o) :
    ∃ t key, alookup tb c.tables = some t ∧ Key.getKey t.schema t.attrs item = .ok key ∧
      ∀ tb' k', absC c' tb' k' = specSet (absC c) tb key (some item) tb' k' := by
  rw [putItem_eq_write] at h
  obtain ⟨t, _, _, ht, hp, rfl, _⟩ := write_success h hs
  obtain ⟨key, hk, _, _, rfl⟩ := Table.put_ok_iff.1 hp
  exact ⟨t, key, ht, hk, absC_setTable c ht (abs_store t key item)⟩

/-- **C01**, DeleteItem: the point becomes empty; asked for the old item (`ro`) it answers what the abstract store held
    there -/
theorem delete_refines (c c' : Client) (tb : Bytes) (keyAttrs : Item) (cond : Option Bytes) (ex : Exprs) (ro : Bool) (o : Out)
    (h : deleteItem c tb keyAttrs cond ex ro = (c', o)) (hs : IsSuccess o) :
    ∃ t key, alookup tb c.tables = some t ∧ Key.getKey t.schema t.attrs keyAttrs = .ok key ∧
      (∀ tb' k', absC c' tb' k' = specSet (absC c) tb key none tb' k') ∧
      o = (if ro then .item (some (outItem c.sdk ((absC c tb key).getD []))) else .item none) := by
  rw [deleteItem_eq_write] at h
  obtain ⟨t, ⟨_, old⟩, _, ht, hp, rfl, rfl⟩ := write_success h hs
  obtain ⟨key, hk, _, rfl, rfl⟩ := Table.delete_ok_iff.1 hp
  exact ⟨t, key, ht, hk, absC_setTable c ht (abs_erase t key), by rw [absC_of ht]; rfl⟩

/-- **C01**, UpdateItem: the point receives the updater's result on what was stored (the key attributes when nothing
    was), and that result is what the call returns -/
theorem update_refines (c c' : Client) (tb : Bytes) (keyAttrs : Item) (expr : Bytes) (cond : Option Bytes) (ex : Exprs) (rf : Bool) (o : Out)
    (hinv : Reach.ClientInv c) (h : updateItem c tb keyAttrs expr cond ex rf = (c', o)) (hs : IsSuccess o) :
    ∃ t key res, alookup tb c.tables = some t ∧ Key.getKey t.schema t.attrs keyAttrs = .ok key ∧
      updater c tb expr ex ((absC c tb key).getD keyAttrs) = .ok res ∧
      (∀ tb' k', absC c' tb' k' = specSet (absC c) tb key (some res) tb' k') ∧
      o = .item (some (outItem c.sdk res)) := by
  rw [updateItem_eq_write] at h
  obtain ⟨t, ⟨_, res⟩, _, ht, hp, rfl, rfl⟩ := write_success h hs
  obtain ⟨key, hk, _, hu, _, rfl⟩ := Table.update_ok_iff.1 hp
  exact ⟨t, key, res, ht, hk, by rw [absC_of ht]; exact hu, absC_setTable c ht (abs_store t key res), rfl⟩

theorem failed_write_refines (c : Client) (op : Op) (hw : match op with | .put .. | .update .. | .delete .. => True | _ => False)
    (hfail : C08.isFailure (step c op).2 = true) : ∀ tb k, absC (step c op).1 tb k = absC c tb k := by
  intro tb k
  cases op <;> simp only at hw
  · exact congrArg (absC · tb k) (C08.put_fail_unchanged c _ _ _ _ hfail)
  · exact congrArg (absC · tb k) (C08.update_fail_unchanged c _ _ _ _ _ _ hfail)
  · exact congrArg (absC · tb k) (C08.delete_fail_unchanged c _ _ _ _ _ hfail)

theorem get_refines (c : Client) (tb : Bytes) (keyAttrs : Item) (t : Table) (key : Bytes)
    (hf : c.failure = none) (ht : alookup tb c.tables = some t) (hk : Key.getKey t.schema t.attrs keyAttrs = .ok key) :
    Client.getItem c tb keyAttrs = (c, .item (some (outItem c.sdk ((absC c tb key).getD [])))) := by
  rw [getItem_eq keyAttrs hf ht, hk, absC_of ht]; rfl

/-- **GetItem after a successful PutItem returns the item that was put** (through the client's output mapper) -/
theorem put_then_get (c c' : Client) (tb : Bytes) (item : Item) (cond : Option Bytes) (ex : Exprs)
    (hinv : Reach.ClientInv c) (h : putItem c tb item cond ex = (c', .ok)) :
    Client.getItem c' tb item = (c', .item (some (outItem c.sdk item))) := by
  rw [putItem_eq_write] at h
  obtain ⟨t, _, hf, ht, hp, rfl, _⟩ := write_success h trivial
  obtain ⟨key, hk, _, _, rfl⟩ := Table.put_ok_iff.1 hp
  -- the stored table builds the same key string from the item, and holds the item under it
  rw [get_refines (setTable c tb _) tb item _ key hf (setTable_self c tb _) (by rw [Table.store_schema, Table.store_attrs]; exact hk),
    absC_of (setTable_self c tb _), abs_store, if_pos rfl]; rfl

/-- **C10 at the client**: GetItem after a successful PutItem returns the item unchanged — through the v1 client
    always, through the v2 client when it holds no empty binary, list, map or set at any depth (else:
    KF-C10-v2-empty-as-null) -/
theorem put_get_roundtrip (c c' : Client) (tb : Bytes) (item : Item) (cond : Option Bytes) (ex : Exprs)
    (hinv : Reach.ClientInv c) (h : putItem c tb item cond ex = (c', .ok))
    (hne : c.sdk = .v1 ∨ C10.NoEmptyKvs item = true) :
    Client.getItem c' tb item = (c', .item (some item)) := by
  rw [put_then_get c c' tb item cond ex hinv h]
  cases hs : c.sdk with
  | v1 => rw [C10.v1_roundtrip]
  | v2 =>
    rcases hne with h1 | h2
    · rw [hs] at h1; cases h1
    · rw [C10.v2_roundtrip_partial item h2]

theorem specSet_same (a : Bytes → Bytes → Option Item) (tb k : Bytes) (v : Option Item) (k' : Bytes) :
    specSet a tb k v tb k' = if k' = k then v else a tb k' := by simp only [specSet, true_and]

/-- after a successful DeleteItem some key of the table is absent and every other key holds what it held; that the key
    is the one of `keyAttrs` is in `delete_refines`, not here -/
theorem delete_then_absent (c c' : Client) (tb : Bytes) (keyAttrs : Item) (cond : Option Bytes) (ex : Exprs) (ro : Bool) (o : Out)
    (hinv : Reach.ClientInv c) (h : deleteItem c tb keyAttrs cond ex ro = (c', o)) (hs : IsSuccess o) :
    ∃ key, absC c' tb key = none ∧ ∀ k, k ≠ key → absC c' tb k = absC c tb k := by
  obtain ⟨_, key, _, _, hspec, _⟩ := delete_refines c c' tb keyAttrs cond ex ro o h hs
  exact ⟨key, of_update fun k => (hspec tb k).trans (specSet_same ..)⟩

/-- after a successful UpdateItem some key of the table holds the returned item, every other key what it held; that the
    key is the one of `keyAttrs` is in `update_refines`, not here -/
theorem update_then_stored (c c' : Client) (tb : Bytes) (keyAttrs : Item) (expr : Bytes) (cond : Option Bytes) (ex : Exprs) (rf : Bool) (o : Out)
    (hinv : Reach.ClientInv c) (h : updateItem c tb keyAttrs expr cond ex rf = (c', o)) (hs : IsSuccess o) :
    ∃ key res, o = .item (some (outItem c.sdk res)) ∧ absC c' tb key = some res ∧ ∀ k, k ≠ key → absC c' tb k = absC c tb k := by
  obtain ⟨_, key, res, _, _, _, hspec, ho⟩ := update_refines c c' tb keyAttrs expr cond ex rf o hinv h hs
  exact ⟨key, res, ho, of_update fun k => (hspec tb k).trans (specSet_same ..)⟩

/-- `specSet` at one table leaves the others alone: a fact about the spec function, no client or operation occurs.  For
    the model: `Client.write_frame`, `C18.put_frame`, `update_frame`, `delete_frame`. -/
theorem write_other_table (a : Bytes → Bytes → Option Item) (tb tb' k k' : Bytes) (v : Option Item) (h : tb' ≠ tb) :
    specSet a tb k v tb' k' = a tb' k' := by simp [specSet, h]

/-- unconditional puts without placeholders into one table, one after the other -/
def putAll (c : Client) (tb : Bytes) : List Item → Client
  | [] => c
  | it :: rest => putAll (putItem c tb it none {}).1 tb rest

/-- the abstract effect of the same puts: each successful one sets its point -/
def specPutAll (c : Client) (tb : Bytes) (a : Bytes → Bytes → Option Item) : List Item → (Bytes → Bytes → Option Item)
  | [] => a
  | it :: rest =>
    match putItem c tb it none {} with
    | (c', .ok) =>
      match alookup tb c.tables with
      | some t => match Key.getKey t.schema t.attrs it with
        | .ok key => specPutAll c' tb (specSet a tb key (some it)) rest
        | .error _ => specPutAll c' tb a rest
      | none => specPutAll c' tb a rest
    | (c', _) => specPutAll c' tb a rest

/-- `run_refines` from any state -/
theorem run_refines' (tb : Bytes) : ∀ (items : List Item) (c : Client),
    ∀ tb' k', absC (putAll c tb items) tb' k' = specPutAll c tb (absC c) items tb' k'
  | [], c => fun _ _ => rfl
  | it :: rest, c => by
    intro tb' k'
    simp only [putAll, specPutAll]
    rcases putItem_cases c tb it none {} with ⟨_, _, _, _, _, he⟩ | ⟨o, ho, he⟩ <;> rw [he]
    · obtain ⟨t, key, ht, hk, hspec⟩ := put_refines c _ tb it none {} _ he trivial
      simp only [ht, hk]
      rw [run_refines' tb rest _, funext fun a => funext (hspec a)]
    · rw [run_refines' tb rest c]
      cases o <;> first | rfl | cases ho

/-- **refinement along a history of unconditional puts into one table** (`putAll`): the abstract store at the end is the
    initial one with the successful puts applied in order — for any number of requests, valid or not -/
theorem run_refines (tb : Bytes) : ∀ (items : List Item) (c : Client), Reach.ClientInv c →
    ∀ tb' k', absC (putAll c tb items) tb' k' = specPutAll c tb (absC c) items tb' k' :=
  fun items c _ => run_refines' tb items c

/-- non-vacuity: a created table, three puts (the second one malformed, the third overwrites the first) -/
example :
    let c0 : Client := (createTable { sdk := .v2 } { table := [116], key := { hash := ([104], [83]) } }).1
    let c := putAll c0 [116] [[([104], .s [97]), ([118], .s [49])], [([118], .s [50])], [([104], .s [97]), ([118], .s [51])]]
    (absC c [116] [97] == some [([104], .s [97]), ([118], .s [51])]) = true := by decide +kernel

end Minidyn.Props.Refine

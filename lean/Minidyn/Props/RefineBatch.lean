/-
  Refinement, continued (C01, C19) — a BatchWriteItem in which every request succeeds changes the abstract store as
  its requests would, one after the other in request order (`batchWrite_refines`, from `C19.batchWrite_eq_fold`).
  Not covered: a batch with a request that fails (an emulated failure, KF-C08-batch-partial).  `specAll` sets the point
  of every request whether it succeeds or not, so it is the specification only under `C19.allSucceed`.
-/
import Minidyn.Props.Refine
import Minidyn.Props.C19
namespace Minidyn.Props.Refine
open Minidyn.Client

/-- the abstract effect of one write request of a batch that succeeds, in the state it is applied in -/
def specReq (c : Client) (a : Bytes → Bytes → Option Item) (tb : Bytes) : WriteReq → (Bytes → Bytes → Option Item)
  | .put item | .both item _ =>
    match alookup tb c.tables with
    | some t => match Key.getKey t.schema t.attrs item with
      | .ok key => specSet a tb key (some item)
      | .error _ => a
    | none => a
  | .del keyAttrs =>
    match alookup tb c.tables with
    | some t => match Key.getKey t.schema t.attrs keyAttrs with
      | .ok key => specSet a tb key none
      | .error _ => a
    | none => a
  | .neither => a

def specAll (c : Client) (a : Bytes → Bytes → Option Item) : List (Bytes × WriteReq) → (Bytes → Bytes → Option Item)
  | [] => a
  | (tb, r) :: rest => specAll (applyWrite c tb r).1 (specReq c a tb r) rest

theorem succeeded_isSuccess {o : Out} (h : C19.succeeded o = true) : IsSuccess o := by
  cases o <;> simp [C19.succeeded] at h <;> trivial

theorem applyWrite_refines (c : Client) (tb : Bytes) (r : WriteReq) (hs : C19.succeeded (applyWrite c tb r).2 = true) :
    absC (applyWrite c tb r).1 = specReq c (absC c) tb r := by
  have hput (item : Item) (hs : C19.succeeded (putItem c tb item none {}).2 = true) :
      absC (putItem c tb item none {}).1 = specReq c (absC c) tb (.put item) := by
    obtain ⟨t, key, ht, hk, hspec⟩ := put_refines c _ tb item none {} _ rfl (succeeded_isSuccess hs)
    simp only [specReq, ht, hk]
    exact funext fun a => funext (hspec a)
  cases r with
  | put item => exact hput item hs
  | both item k => exact hput item hs
  | del keyAttrs =>
    obtain ⟨t, key, ht, hk, hspec, _⟩ := delete_refines c _ tb keyAttrs none {} false _ rfl (succeeded_isSuccess hs)
    simp only [specReq, ht, hk]
    exact funext fun a => funext (hspec a)
  | neither => rfl

/-- `applyAll_refines` from any state -/
theorem applyAll_refines' : ∀ (flat : List (Bytes × WriteReq)) (c : Client), C19.allSucceed c flat = true →
    absC (C19.applyAll c flat) = specAll c (absC c) flat
  | [], _, _ => rfl
  | (tb, r) :: rest, c, h => by
    simp only [C19.allSucceed, Bool.and_eq_true] at h
    simp only [C19.applyAll, specAll]
    rw [applyAll_refines' rest _ h.2, applyWrite_refines c tb r h.1]

/-- the single-item decomposition of a batch (`C19.applyAll`), when every request succeeds, changes the abstract store
    request by request, in order -/
theorem applyAll_refines : ∀ (flat : List (Bytes × WriteReq)) (c : Client), Reach.ClientInv c → C19.allSucceed c flat = true →
    absC (C19.applyAll c flat) = specAll c (absC c) flat :=
  fun flat c _ => applyAll_refines' flat c

/-- **C19, BatchWriteItem refines the abstract store**: a batch that respects the batch rules (at most 25 requests, each
    a put or a delete) and none of whose requests fails changes the abstract store exactly as its requests do one after
    the other, in request order -/
theorem batchWrite_refines (c : Client) (reqs : List (Bytes × List WriteReq)) (hinv : Reach.ClientInv c)
    (hvalid : (reqs.flatMap fun (_, rs) => rs).any isBadReq = false) (hlimit : (reqs.flatMap fun (_, rs) => rs).length ≤ 25)
    (hall : C19.allSucceed c (reqs.flatMap fun (t, rs) => rs.map fun r => (t, r)) = true) :
    absC (batchWrite c reqs).1 = specAll c (absC c) (reqs.flatMap fun (t, rs) => rs.map fun r => (t, r)) := by
  rw [C19.batchWrite_eq_fold c reqs hvalid hlimit hall]
  exact applyAll_refines' _ c hall

end Minidyn.Props.Refine

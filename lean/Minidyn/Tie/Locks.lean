/-
  Minidyn.Tie.Locks — C11, code-specific obligation: the flattened code of every exported method of both clients
  respects the lock discipline (`wellLocked_generated_v1/_v2`).  `tools/gofacts` regenerates the skeletons from
  client.go and minidyn.go of aws-v1/client and aws-v2/client on every run.  Trusted: that extraction — a skeleton is
  the events of a function body in source order, branches one after the other; shared state is six named fields of
  `Client` and the method calls on a variable `table` or `newTable`.  What the discipline gives for interleaved
  goroutines: `Minidyn.Props.C11`.
-/
import Minidyn.Generated.Locks
namespace Minidyn.Tie
open Minidyn.Generated

abbrev Skeletons := List (String × Bool × List LockEv)

def lookupSk (k : String) : Skeletons → Option (List LockEv)
  | [] => none
  | (k', _, v) :: t => if k' == k then some v else lookupSk k t

/-- a deferred unlock releases at the return of *that* function: close the skeleton of a
    function before it is inlined into its caller -/
def closeDeferred (evs : List LockEv) : List LockEv :=
  if evs.contains .deferUnlock then (evs.filter (· != .deferUnlock)) ++ [.unlock] else evs

/-- inline the calls; `none` = unknown callee or out of fuel, which `wellLockedMethod` rejects -/
def flatten (sk : Skeletons) : Nat → List LockEv → Option (List LockEv)
  | _, [] => some []
  | 0, _ => none
  | fuel + 1, .call m :: rest =>
    match lookupSk m sk with
    | none => none
    | some body =>
      match flatten sk fuel (closeDeferred body), flatten sk fuel rest with
      | some b, some r => some (b ++ r)
      | _, _ => none
  | fuel + 1, e :: rest =>
    match flatten sk fuel rest with
    | some r => some (e :: r)
    | none => none

/-- `held`: this goroutine holds the mutex.  Rejected: Lock while holding (`sync.Mutex` is not re-entrant), an access
    or an Unlock without holding, returning while holding; also `.deferUnlock` and `.call`: flattening leaves none. -/
def disciplined : Bool → List LockEv → Bool
  | held, [] => !held
  | held, .lock :: rest => !held && disciplined true rest
  | held, .unlock :: rest => held && disciplined false rest
  | held, .read _ :: rest => held && disciplined held rest
  | held, .write _ :: rest => held && disciplined held rest
  | held, .table _ :: rest => held && disciplined held rest
  | _, .deferUnlock :: _ => false
  | _, .call _ :: _ => false

def flatOf (sk : Skeletons) (evs : List LockEv) : Option (List LockEv) := flatten sk 400 (closeDeferred evs)

def wellLockedMethod (sk : Skeletons) (evs : List LockEv) : Bool :=
  match flatOf sk evs with
  | some flat => disciplined false flat
  | none => false

/-- every method a user of the library can call respects the discipline -/
def wellLocked (sk : Skeletons) : Bool :=
  sk.all fun (_, exported, evs) => !exported || wellLockedMethod sk evs

theorem wellLocked_generated_v1 : wellLocked locksV1 = true := by decide +kernel
theorem wellLocked_generated_v2 : wellLocked locksV2 = true := by decide +kernel

/-- non-vacuity: the skeletons are there; rejected are an access without the lock (`CreateTable` before its repair)
    and a locked method that calls a locked method -/
theorem wellLocked_nonvacuous :
    locksV1.length ≥ 30 ∧ locksV2.length ≥ 20 ∧
    wellLocked [("CreateTable", true, [.read "tables", .write "tables"])] = false ∧
    wellLocked [("Batch", true, [.lock, .deferUnlock, .call "PutItem"]), ("PutItem", true, [.lock, .deferUnlock, .table "Put"])] = false := by
  decide +kernel

end Minidyn.Tie

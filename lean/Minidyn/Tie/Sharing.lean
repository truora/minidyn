/-
  Minidyn.Tie.Sharing — C14, code-specific obligation: every value-carrying field store that gofacts extracts from the
  attribute-value mappers of both clients is classified `.fresh` or `.recursive`, and interpreter/language has none of
  the address-of expressions gofacts looks for (`no_singleton_leak`).  Regenerated from the Go sources on every run.
  Trusted: gofacts' syntactic classification (tools/gofacts/sharing.go), in particular its list of helpers taken to
  return fresh memory (pinned in part: `copy_helpers_reviewed`) and that it visits every mapper (guarded in part:
  `covers`).  What isolation a mapper of that shape gives: `Minidyn.Props.C14`.
-/
import Minidyn.Generated.Sharing
import Minidyn.Generated.Fingerprints
namespace Minidyn.Tie
open Minidyn.Generated

def isolating : Transfer → Bool
  | .fresh | .recursive => true
  | .share | .unknown => false

def noSharing (ts : List (String × String × Transfer × String)) : Bool :=
  ts.all fun (_, _, mode, _) => isolating mode

/-- Guards `noSharing`, which holds of an empty extraction, against the loss of a function.  `sharing_covers_mappers`
    names the four v1 mappers and four of the six v2 mappers gofacts extracts: not `mapDynamoToTypesMapItem` and
    `mapTypesToDynamoMapItem`, the entry points every item crosses, whose rows could vanish unnoticed. -/
def covers (ts : List (String × String × Transfer × String)) (fns : List String) : Bool :=
  fns.all fun f => ts.any fun (g, _, _, _) => g == f

theorem noSharing_generated_v1 : noSharing transfersV1 = true := by decide +kernel
theorem noSharing_generated_v2 : noSharing transfersV2 = true := by decide +kernel

theorem sharing_covers_mappers :
    covers transfersV1 ["mapAttributeValueToTypes", "mapAttributeValueListToTypes", "mapAttributeValueToDynamodb",
                        "mapAttributeValueListToDynamodb"] = true ∧
    covers transfersV2 ["mapDynamoToTypesItem", "mapDynamoToTypesAttributeDefinitionMapOrList", "mapTypesToDynamoItem",
                        "mapTypesToDynamoAttributeDefinitionMapOrList"] = true ∧
    transfersV1.length ≥ 40 ∧ transfersV2.length ≥ 20 := by decide +kernel

def fpOf (name : String) : Option String :=
  (fingerprints.find? fun p => p.1 == name).map (·.2)

/-- The fingerprints of the normalised source of ten helpers as they were reviewed; a rewrite of one breaks this
    theorem.  The nine of the mappers each allocate (`make`, a local whose address is taken) and copy element by
    element, to the innermost byte; `core.copyItem` copies the map of an item, not the `*types.Item` in it.
    Not pinned: `toStringValueSlice`, `types.ToString`, `types.StringValue` (package `types` has no fingerprints), on
    which 6 of the 24 rows of `transfersV2` rest. -/
theorem copy_helpers_reviewed :
    fpOf "v1.copyBytes" = some "ba88506d4435" ∧ fpOf "v1.copyBytesSlice" = some "5bba426f143a" ∧
    fpOf "v1.copyString" = some "614d66b5dd80" ∧ fpOf "v1.copyStringSlice" = some "23e3f9df9b07" ∧
    fpOf "v1.copyBool" = some "fd5d41562142" ∧
    fpOf "v2.copyBytes" = some "ba88506d4435" ∧ fpOf "v2.copyBytesSlice" = some "5bba426f143a" ∧
    fpOf "v2.toStringSlice" = some "b3e1bc8ef0b2" ∧ fpOf "v2.toString" = some "73a0da9dda6f" ∧
    fpOf "core.copyItem" = some "c01b5c94c6fd" := by decide +kernel

/-- interpreter/language takes no address inside an evaluator singleton: gofacts looks for `&TRUE.…`, `&FALSE.…`,
    `&UNDEFINED.…`, `&b.Value`, `&n.Value` -/
theorem no_singleton_leak : singletonLeaks = [] := rfl

end Minidyn.Tie

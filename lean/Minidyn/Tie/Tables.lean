/-
  Minidyn.Tie.Tables — the regenerated tie (T1 of DESIGN.md): what the hand-written model assumes about the literal
  tables of the Go sources (keywords, precedences, registered parse functions, function table, client constants).
  `tools/gofacts` rewrites `Minidyn/Generated/*.lean` from /repo on every run, so a change to one of these tables in the
  Go code makes a theorem here fail.  `*_expected` pin a table to a literal by `rfl`; `*_tie` compare it with the
  model's function by evaluation, `+kernel` because the kernel is faster than the elaborator on the string comparisons.
  Trusted: the extraction by gofacts.
-/
import Minidyn.Model.Eval
import Minidyn.Generated.Tables
namespace Minidyn.Tie

def tokOfName : String → Option Tok
  | "ILLEGAL" => some .illegal | "EOF" => some .eof | "IDENT" => some .ident
  | "<" => some .lt | "<=" => some .lte | ">" => some .gt | ">=" => some .gte | "=" => some .eq | "<>" => some .neq
  | "," => some .comma | "(" => some .lparen | ")" => some .rparen | "[" => some .lbracket | "]" => some .rbracket
  | "." => some .dot | "AND" => some .and | "OR" => some .or | "NOT" => some .not | "BETWEEN" => some .between
  | "IN" => some .in_ | "SET" => some .set | "REMOVE" => some .remove | "ADD" => some .add | "DELETE" => some .delete
  | "+" => some .plus | "-" => some .minus
  | _ => none

def allToks : List Tok :=
  [.illegal, .ident, .lt, .lte, .gt, .gte, .eq, .neq, .comma, .lparen, .rparen, .lbracket, .rbracket, .dot,
   .and, .or, .not, .between, .in_, .set, .remove, .add, .delete, .plus, .minus, .eof]

def tokName : Tok → String
  | .illegal => "ILLEGAL" | .eof => "EOF" | .ident => "IDENT"
  | .lt => "<" | .lte => "<=" | .gt => ">" | .gte => ">=" | .eq => "=" | .neq => "<>"
  | .comma => "," | .lparen => "(" | .rparen => ")" | .lbracket => "[" | .rbracket => "]" | .dot => "."
  | .and => "AND" | .or => "OR" | .not => "NOT" | .between => "BETWEEN" | .in_ => "IN"
  | .set => "SET" | .remove => "REMOVE" | .add => "ADD" | .delete => "DELETE" | .plus => "+" | .minus => "-"

theorem keywords_tie :
    Generated.keywords.all (fun (lit, name) => some (Lexer.lookupIdent lit) == tokOfName name) = true := by decide +kernel

/-- `Lexer.lookupIdent` has nine keywords too, so with `keywords_tie` none that Go lacks -/
theorem keywords_count : Generated.keywords.length = 9 := rfl

theorem singleChar_expected :
    Generated.singleChar = [(40, "("), (41, ")"), (43, "+"), (44, ","), (45, "-"), (61, "=")] := rfl

theorem singleChar_tie :
    Generated.singleChar.all (fun (c, name) => Lexer.single c == tokOfName name) = true := by decide +kernel

theorem especialChars_expected : Generated.especialChars = [35, 58, 95] := rfl

def lookupS {β} (k : String) : List (String × β) → Option β
  | [] => none
  | (k', v) :: t => if k' == k then some v else lookupS k t

/-- the default `1` is `precedenceValueLowset` (`precedenceValues_expected`) -/
theorem precedences_tie :
    allToks.all (fun t => Parser.prec t == (lookupS (tokName t) Generated.precedences).getD 1) = true := by decide +kernel

theorem precedenceValues_expected :
    Generated.precedenceValues =
      [("precedenceValueLowset", 1), ("precedenceValueOR", 2), ("precedenceValueAND", 3), ("precedenceValueNOT", 4),
       ("precedenceValueEqualComparators", 5), ("precedenceValueBetweenComparator", 6), ("precedenceValueComparators", 7),
       ("precedenceValueOperators", 8), ("precedenceValueCall", 9), ("precedenceValueINDEX", 10),
       ("precedenceValueInComparator", 11)] := rfl

/-- the precedence handed to `parseExpression` by the NOT parser, the parenthesis parser,
    the argument parser and the action parser -/
theorem parse_call_precedences :
    Generated.parsePrefixExpressionPrec = [Parser.pNot] ∧ Generated.parseGroupedExpressionPrec = [Parser.pLowest] ∧
    Generated.parseCallArgumentsPrec = [Parser.pLowest, Parser.pLowest] ∧
    Generated.parseActionPrec = [Parser.pLowest, Parser.pLowest] := ⟨rfl, rfl, rfl, rfl⟩

def prefixOfName : String → Option Parser.PrefixFn
  | "parseIdentifier" => some .ident | "parsePrefixExpression" => some .not
  | "parseGroupedExpression" => some .group | "parseUpdateActionExpression" => some .updateAction
  | _ => none

def infixOfName : String → Option Parser.InfixFn
  | "parseInfixExpression" => some .infix | "parseIndexExpression" => some .index
  | "parseBetweenExpression" => some .between | "parseCallExpression" => some .call
  | "parseInExpression" => some .isIn
  | _ => none

theorem registrations_tie :
    allToks.all (fun t =>
      Parser.prefixFn .cond t == (lookupS (tokName t) Generated.condPrefix).bind prefixOfName &&
      Parser.prefixFn .upd t == (lookupS (tokName t) Generated.updPrefix).bind prefixOfName &&
      Parser.infixFn .cond t == (lookupS (tokName t) Generated.condInfix).bind infixOfName &&
      Parser.infixFn .upd t == (lookupS (tokName t) Generated.updInfix).bind infixOfName) = true := by decide +kernel

/-- closes a gap of `registrations_tie`, where a parse function the model does not know reads as no registration -/
theorem registrations_known :
    (Generated.condPrefix ++ Generated.updPrefix).all (fun p => (prefixOfName p.2).isSome) = true ∧
    (Generated.condInfix ++ Generated.updInfix).all (fun p => (infixOfName p.2).isSome) = true := by decide +kernel

theorem functions_tie :
    Generated.functions.all (fun (name, _, upd, arity) => Eval.fnInfo name == some (arity, upd)) = true := by decide +kernel

theorem functions_expected :
    Generated.functions.map (fun (_, impl, _, _) => impl) =
      ["attributeExists", "attributeNotExists", "attributeType", "beginsWith", "contains", "ifNotExists", "listAppend", "objectSize"] := rfl

theorem comparableTypes_expected : Generated.comparableTypes = [[66], [78], [83]] := rfl

theorem dynamodbTypes_tie : Generated.dynamodbTypes.all Eval.dynamodbTypeCodes.contains = true ∧
    Generated.dynamodbTypes.length = 10 := by decide +kernel

theorem batch_limit_expected : Generated.batchRequestsLimitV1 = 25 ∧ Generated.batchRequestsLimitV2 = 25 := ⟨rfl, rfl⟩

theorem regex_expected :
    Generated.expressionAttributeNamesRegexV1 = "^#[A-Za-z0-9_]+$" ∧ Generated.expressionAttributeValuesRegexV1 = "^:[A-Za-z0-9_]+$" ∧
    Generated.expressionAttributeNamesRegexV2 = "^#[A-Za-z0-9_]+$" ∧ Generated.expressionAttributeValuesRegexV2 = "^:[A-Za-z0-9_]+$" :=
  ⟨rfl, rfl, rfl, rfl⟩

theorem emulatingErrors_expected :
    Generated.emulatingErrorsV1 = ["deprecated=>ErrForcedFailure", "internal_server=>emulatedInternalServeError", "none=>nil"] ∧
    Generated.emulatingErrorsV2 = ["deprecated=>ErrForcedFailure", "internal_server=>&emulatedInternalServeError", "none=>nil"] :=
  ⟨rfl, rfl⟩

/-- the four registration maps of `interpreter.Native` are keyed by the struct `expressionKey`, whose
    fields keep the table name and the expression text apart (the model's `nativeKey` encodes that pair) -/
theorem native_keys_tie :
    Generated.nativeMapKeyTypes = [("filterExpressions", "expressionKey"), ("keyExpressions", "expressionKey"),
      ("writeCondExpressions", "expressionKey"), ("updateExpressions", "expressionKey")] ∧
    Generated.expressionKeyFields = [("tablename", "string"), ("expression", "string")] := ⟨rfl, rfl⟩

end Minidyn.Tie
